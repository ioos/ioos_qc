/-
  Flag codes; `conforms` on tabulated flags (`pointwise_map`); the model's reads of a series
  (`getV`, `windowEnding`, `present`, reversal); two folds (`foldl_congr_mem`, `foldl_last_wins`);
  what `inDom` gives for a `location` / `speed` call (`HopsConsistent` is the half of
  `hopsConsistent` that says where a hop is missing, `hexact_of_consistent` the other half).
-/
import IoosQc.Props.C01C02

namespace IoosQc

theorem Flag.ofCode_code (f : Flag) : Flag.ofCode? (f.code : Int) = some f := by
  cases f <;> rfl

theorem Flag.code_inj {f g : Flag} (h : (f.code : Int) = (g.code : Int)) : f = g :=
  Option.some.inj (by rw [← Flag.ofCode_code f, ← Flag.ofCode_code g, h])

theorem Flag.isFlagCode_code (f : Flag) : isFlagCode (f.code : Int) = true := by
  cases f <;> rfl

theorem allowedCode_iff (al : List Flag) (f : Flag) : allowedCode al (f.code : Int) = true ↔ f ∈ al := by
  unfold allowedCode
  simp only [List.any_eq_true, beq_iff_eq]
  constructor
  · rintro ⟨g, hg, h⟩
    have := Flag.code_inj h
    subst this; exact hg
  · intro h; exact ⟨f, h, rfl⟩

/-- `R` is any "the two lists agree position by position" predicate of the properties
    (`conformsList`, `C16.holdsList`). -/
theorem pointwise_map {α β ι : Type} (R : List α → List β → Bool) (r : α → β → Bool)
    (hnil : R [] [] = true) (hcons : ∀ a as b bs, R (a :: as) (b :: bs) = (r a b && R as bs))
    (l : List ι) (f : ι → α) (g : ι → β) (h : ∀ x ∈ l, r (f x) (g x) = true) :
    R (l.map f) (l.map g) = true := by
  induction l with
  | nil => exact hnil
  | cons x xs ih =>
    rw [List.map_cons, List.map_cons, hcons, Bool.and_eq_true]
    exact ⟨h x (by simp), ih (fun y hy => h y (by simp [hy]))⟩

theorem conforms_flags_map {α : Type} (l : List α) (al : α → List Flag) (fl : α → Flag)
    (h : ∀ x ∈ l, fl x ∈ al x) :
    conforms (.flags (l.map al)) (Res.toObs (.ok (l.map fl))) = true := by
  simp only [conforms, Res.toObs, List.map_map]
  exact pointwise_map conformsList allowedCode rfl (fun _ _ _ _ => rfl) l al _
    (fun x hx => (allowedCode_iff _ _).2 (h x hx))

theorem conforms_flags_range (n : Nat) (al : Nat → List Flag) (fl : Nat → Flag)
    (h : ∀ i, i < n → fl i ∈ al i) :
    conforms (.flags ((List.range n).map al)) (Res.toObs (.ok ((List.range n).map fl))) = true :=
  conforms_flags_map _ al fl fun i hi => h i (List.mem_range.1 hi)

theorem getV_of_lt (xs : List V) {i : Nat} (h : i < xs.length) : getV xs i = xs[i] := by
  rw [getV, List.getD_eq_getElem?_getD, List.getElem?_eq_getElem h, Option.getD_some]

theorem getV_of_le (xs : List V) {i : Nat} (h : xs.length ≤ i) : getV xs i = none := by
  rw [getV, List.getD_eq_getElem?_getD, List.getElem?_eq_none h, Option.getD_none]

theorem getElem?_of_getV {xs : List V} {i : Nat} {v : Rat} (h : getV xs i = some v) :
    xs[i]? = some (some v) := by
  rw [getV, List.getD_eq_getElem?_getD] at h
  cases hx : xs[i]? with
  | none => rw [hx] at h; cases h
  | some y => rw [hx] at h; exact congrArg some h

theorem mem_of_getV_eq_some {xs : List V} {i : Nat} {v : Rat} (h : getV xs i = some v) : some v ∈ xs :=
  List.mem_of_getElem? (getElem?_of_getV h)

theorem getV_of_all_none (z : List V) (i : Nat) (h : z.all Option.isNone = true) :
    getV z i = none := by
  cases hi : getV z i with
  | none => rfl
  | some a => cases List.all_eq_true.1 h _ (mem_of_getV_eq_some hi)

theorem getV_set_ne (xs : List V) (j i : Nat) (v : V) (h : i ≠ j) :
    getV (xs.set j v) i = getV xs i := by
  unfold getV
  simp [List.getD_eq_getElem?_getD, List.getElem?_set_ne (Ne.symm h)]

theorem getV_map_map (σ : Rat → Rat) (xs : List V) (i : Nat) :
    getV (xs.map (Option.map σ)) i = (getV xs i).map σ := by
  unfold getV
  rw [List.getD_eq_getElem?_getD, List.getD_eq_getElem?_getD, List.getElem?_map]
  cases xs[i]? <;> rfl

theorem map_eq_range_getV {β : Type} (xs : List V) (f : V → β) :
    xs.map f = (List.range xs.length).map (fun i => f (getV xs i)) := by
  apply List.ext_getElem
  · simp
  · intro i h1 h2
    have hi : i < xs.length := by simpa using h1
    simp [getV_of_lt xs hi]

/-- The harness invariant on the supplied hop distances: `hops[j]` (distance from position `j`
    to position `j+1`) is missing whenever one of the four coordinates involved is missing. -/
def HopsConsistent (lon lat hops : List V) : Prop :=
  ∀ j, (getV lon j).isNone ∨ (getV lat j).isNone ∨ (getV lon (j+1)).isNone ∨ (getV lat (j+1)).isNone
    → getV hops j = none

theorem hcons_of_consistent {lon lat hops : List V} (h : hopsConsistent lon lat hops = true) :
    HopsConsistent lon lat hops := by
  intro j hj
  by_cases hlt : j < hops.length
  · unfold hopsConsistent at h
    rw [Bool.and_eq_true] at h
    replace h := h.1
    rw [List.all_eq_true] at h
    have := h j (List.mem_range.2 hlt)
    rcases hj with h1 | h1 | h1 | h1 <;> simp [h1] at this <;> exact this
  · exact getV_of_le _ (Nat.le_of_not_lt hlt)

theorem hexact_of_consistent {lon lat hops : List V} (h : hopsConsistent lon lat hops = true) :
    ∀ j, j + 1 < lon.length → getV hops j = none →
      (getV lon j).isNone ∨ (getV lat j).isNone ∨ (getV lon (j + 1)).isNone ∨ (getV lat (j + 1)).isNone := by
  intro j hj hn
  unfold hopsConsistent at h
  rw [Bool.and_eq_true] at h
  have := List.all_eq_true.1 h.2 j (List.mem_range.2 (by omega))
  simpa [hn, or_assoc] using this

theorem location_inDom_hops {lon lat : List V} {bbox : SeqArg} {rangeMax : Option Rat} {hops : List V}
    (h : (TestCall.location lon lat bbox rangeMax hops).inDom = true) :
    hopsConsistent lon lat hops = true := by
  simp only [TestCall.inDom, Bool.and_eq_true] at h; exact h.1.2

theorem location_inDom_range {lon lat : List V} {bbox : SeqArg} {rangeMax : Option Rat} {hops : List V}
    (h : (TestCall.location lon lat bbox rangeMax hops).inDom = true) :
    ∀ r, rangeMax = some r → 0 ≤ r := by
  intro r hr
  subst hr
  simp only [TestCall.inDom, Bool.and_eq_true, decide_eq_true_eq] at h
  exact h.2

theorem speed_inDom_hops {lon lat : List V} {ts : List Int} {sus fail : Rat} {hops : List V}
    (h : (TestCall.speed lon lat ts sus fail hops).inDom = true) : hopsConsistent lon lat hops = true := by
  simp only [TestCall.inDom, Bool.and_eq_true] at h; exact h.2

theorem sort2_eq (a b : Rat) : sort2 a b = (lo2 a b, hi2 a b) := by
  unfold sort2 lo2 hi2; split <;> rfl

theorem getV_mirror (xs : List V) {i j : Nat} (h : i + j + 1 = xs.length) :
    getV xs.reverse i = getV xs j := by
  unfold getV
  rw [List.getD_eq_getElem?_getD, List.getD_eq_getElem?_getD, List.getElem?_reverse (by omega)]
  congr 2
  omega

theorem map_range_mirror {α : Type} (n : Nat) (f g : Nat → α)
    (h : ∀ i j, i + j + 1 = n → f i = g j) :
    (List.range n).map f = ((List.range n).map g).reverse := by
  apply List.ext_getElem
  · simp
  · intro i hi _
    simp only [List.length_map, List.length_range] at hi
    simp only [List.getElem_map, List.getElem_range, List.getElem_reverse, List.length_map,
      List.length_range]
    exact h _ _ (by omega)

theorem getElem?_windowEnding (xs : List V) (i k m : Nat) :
    (windowEnding xs i k)[m]? = if m < k + 1 then xs[i - k + m]? else none := by
  unfold windowEnding
  rw [List.getElem?_take, List.getElem?_drop]

theorem windowEnding_map (f : V → V) (xs : List V) (i k : Nat) :
    windowEnding (xs.map f) i k = (windowEnding xs i k).map f := by
  unfold windowEnding
  rw [List.map_take, List.map_drop]

theorem windowEnding_set (xs : List V) (j i k : Nat) (v : V) (hk : k ≤ i)
    (h : i < j ∨ j + k < i) :
    windowEnding (xs.set j v) i k = windowEnding xs i k := by
  apply List.ext_getElem?
  intro m
  rw [getElem?_windowEnding, getElem?_windowEnding]
  split
  · rw [List.getElem?_set_ne (by omega)]
  · rfl

theorem windowEnding_drop (xs : List V) (i : Nat) {k k' : Nat} (hk : k' ≤ k) (hki : k ≤ i) :
    windowEnding xs i k' = (windowEnding xs i k).drop (k - k') := by
  unfold windowEnding
  rw [List.drop_take, List.drop_drop, Nat.sub_add_sub_cancel hki hk,
    Nat.sub_add_comm (Nat.sub_le k k'), Nat.sub_sub_self hk]

theorem present_map (σ : Rat → Rat) (w : List V) :
    present (w.map (Option.map σ)) = (present w).map σ := by
  unfold present
  induction w with
  | nil => rfl
  | cons x xs ih => cases x <;> simp [ih]

theorem foldl_congr_mem {α β : Type} (f g : β → α → β) (l : List α)
    (h : ∀ a ∈ l, ∀ b, f b a = g b a) : ∀ b, l.foldl f b = l.foldl g b := by
  induction l with
  | nil => exact fun _ => rfl
  | cons a l ih =>
    intro b
    rw [List.foldl_cons, List.foldl_cons, h a List.mem_cons_self,
      ih fun a' ha' => h a' (List.mem_cons_of_mem _ ha')]

theorem foldl_last_wins {α β : Type} (c : α → Bool) (g : α → β) (acc : β) (ms : List α) :
    ms.foldl (fun acc m => if c m then g m else acc) acc =
      (match (ms.filter c).getLast? with
       | none => acc
       | some m => g m) := by
  induction ms generalizing acc with
  | nil => rfl
  | cons m ms ih =>
    rw [List.foldl_cons, ih]
    cases hc : c m with
    | false => simp [hc]
    | true =>
      simp only [List.filter_cons, hc, if_true, List.getLast?_cons]
      cases (ms.filter c).getLast? <;> simp

end IoosQc
