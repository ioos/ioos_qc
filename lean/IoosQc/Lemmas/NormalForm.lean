/-
  What a test returns, in one equation per call: the parameters are parsed (`TestCall.flagAt`: the
  pointwise flag function, or the error raised), and an accepted call returns that function
  tabulated over the positions of its primary series (`run_eq`).
-/
import IoosQc.Lemmas.Basic

namespace IoosQc

/-! ### `Except` without the monad notation -/

section
variable {ε α β : Type}
@[simp] theorem pure_eq_ok (a : α) : (pure a : Except ε α) = .ok a := rfl
@[simp] theorem throw_eq_error (e : ε) : (throw e : Except ε α) = .error e := rfl
@[simp] theorem ok_bind (a : α) (f : α → Except ε β) : (Except.ok a >>= f) = f a := rfl
@[simp] theorem error_bind (e : ε) (f : α → Except ε β) : (Except.error e >>= f) = .error e := rfl
@[simp] theorem map_ok (a : α) (f : α → β) : Except.map f (.ok a : Except ε α) = .ok (f a) := rfl
@[simp] theorem map_error (e : ε) (f : α → β) : Except.map f (.error e : Except ε α) = .error e := rfl
end

/-- `isfixedlength(a, 2)` then `sorted(a)`. -/
def SeqArg.span (a : SeqArg) : Except Err (Rat × Rat) := do
  fixedLength a 2
  match a.vals with
  | [x, y] => pure (sort2 x y)
  | _ => throw .value

def SeqArg.box (a : SeqArg) : Except Err Box := do
  fixedLength a 4
  match a.vals with
  | [x0, y0, x1, y1] => pure ⟨x0, y0, x1, y1⟩
  | _ => throw .value

def SpikeMethod.parse (s : String) : Except Err SpikeMethod :=
  if s = "average" then pure .average else if s = "differential" then pure .differential
  else throw .value

def CheckType.parse (s : String) : Except Err CheckType :=
  if s = "std" then pure .std else if s = "range" then pure .range else throw .value

def TestCall.flagAt (periodOf : Period → Int → Int) : TestCall → Except Err (Nat → Flag)
  | .gross fail suspect inp => do
    let f ← fail.span
    match suspect with
    | none => pure fun i => grossAt f none (getV inp i)
    | some s =>
      let u ← s.span
      if u.1 < f.1 || f.2 < u.2 then throw .value else pure fun i => grossAt f (some u) (getV inp i)
  | .valid lo hi si ei inp => pure fun i => validAt lo hi si ei (getV inp i)
  | .location lon lat bbox r hops => do
    let b ← bbox.box
    if lon.length != lat.length then throw .value
    else pure fun i => locationAt b r lon.length (getV lon i) (getV lat i) (hopAt hops i)
  | .climatology ms inp t z =>
    pure fun i => climAt periodOf ms (z.all Option.isNone) (t.getD i 0) (getV inp i) (getV z i)
  | .spike method s f inp => do let m ← SpikeMethod.parse method; pure (spikeAt m s f inp)
  | .roc inp t thr => if inp.length != t.length then throw .value else pure (rocAt thr inp t)
  | .flatLine inp t s f tol =>
    pure (if inp.length < 3 then fun i => overrides .good [((getV inp i).isNone, .missing)]
          else flatAt (flatCount s (medianStep t)) (flatCount f (medianStep t)) tol inp)
  | .attenuated ct inp t s f p mo mp => do
    let c ← CheckType.parse ct
    match p with
    | none => pure fun i => attenAt (wholeStat c inp) s f (getV inp i)
    | some P => pure fun i => attenAt (windowStat c (max (attenMinp mo mp t) 1) inp t P i) s f (getV inp i)
  | .density rho z s f =>
    if rho.length != z.length then throw .value
    else pure (if rho.length < 2 then fun _ => .unknown else densAt s f rho z)
  | .pressure p => pure (pressAt p (pressFlip p))
  | .speed lon lat t s f hops =>
    if lon.length != lat.length || lon.length != t.length then throw .value
    else pure (if lon.length < 2 then fun _ => .unknown else speedAt s f lon lat t hops)

/-- The `n = 0` / `n = 1` early returns of `densityTest` / `speedTest`, as one tabulation. -/
theorem short_profile_eq (n : Nat) (g : Nat → Flag) :
    (if n = 0 then pure [] else if n < 2 then pure [.unknown] else pure ((List.range n).map g) : Res) =
      .ok ((List.range n).map (if n < 2 then fun _ => .unknown else g)) := by
  match n with
  | 0 | 1 | _ + 2 => rfl

/-- Only climatology reads `periodOf`.  A proof about one test function takes this at any calendar:
    `(TestCall.gross f s inp).run p` is `grossRange f s inp` by definition, and so for the others. -/
theorem TestCall.run_eq (periodOf : Period → Int → Int) (c : TestCall) :
    c.run periodOf = (c.flagAt periodOf).map fun g => (List.range c.size).map g := by
  cases c with
  | gross fail suspect inp =>
    simp only [run, flagAt, size, grossRange, SeqArg.span]
    cases fixedLength fail 2 with
    | error e => rfl
    | ok _ =>
      match hv : fail.vals with
      | [] | [_] | _ :: _ :: _ :: _ => rfl
      | [a, b] =>
        cases suspect with
        | none => exact congrArg Except.ok (map_eq_range_getV inp _)
        | some s =>
          show (fixedLength s 2 >>= _) = Except.map _ (fixedLength s 2 >>= _ >>= _)
          cases fixedLength s 2 with
          | error e => rfl
          | ok _ =>
            match hsv : s.vals with
            | [] | [_] | _ :: _ :: _ :: _ => rfl
            | [c, d] =>
              show (if _ then _ else _) = Except.map _ (if _ then _ else _)
              split
              · rfl
              · exact congrArg Except.ok (map_eq_range_getV inp _)
  | valid lo hi si ei inp => exact congrArg Except.ok (map_eq_range_getV inp _)
  | location lon lat bbox r hops =>
    simp only [run, flagAt, size, locationTest, SeqArg.box]
    cases fixedLength bbox 4 with
    | error e => rfl
    | ok _ =>
      match hv : bbox.vals with
      | [] | [_] | [_, _] | [_, _, _] | _ :: _ :: _ :: _ :: _ :: _ => rfl
      | [x0, y0, x1, y1] =>
        show (if _ then _ else _) = Except.map _ (if _ then _ else _)
        split <;> rfl
  | climatology ms inp t z => rfl
  | spike method s f inp =>
    simp only [run, flagAt, size, spikeTest, SpikeMethod.parse]
    by_cases h1 : method = "average"
    · simp only [if_pos h1]; rfl
    · by_cases h2 : method = "differential"
      · simp only [if_neg h1, if_pos h2]; rfl
      · simp only [if_neg h1, if_neg h2]; rfl
  | roc inp t thr =>
    simp only [run, flagAt, size, rocTest]
    split <;> rfl
  | flatLine inp t s f tol =>
    simp only [run, flagAt, size, flatLineTest]
    split
    · exact congrArg Except.ok (map_eq_range_getV inp _)
    · rfl
  | attenuated ct inp t s f p mo mp =>
    simp only [run, flagAt, size, attenuatedTest, CheckType.parse]
    by_cases h1 : ct = "std"
    · simp only [if_pos h1]
      cases p
      · exact congrArg Except.ok (map_eq_range_getV inp _)
      · rfl
    · by_cases h2 : ct = "range"
      · simp only [if_neg h1, if_pos h2]
        cases p
        · exact congrArg Except.ok (map_eq_range_getV inp _)
        · rfl
      · simp only [if_neg h1, if_neg h2]; rfl
  | density rho z s f =>
    simp only [run, flagAt, size, densityTest]
    split
    · rfl
    · exact short_profile_eq _ _
  | pressure p => rfl
  | speed lon lat t s f hops =>
    simp only [run, flagAt, size, speedTest]
    split
    · rfl
    · exact short_profile_eq _ _

theorem TestCall.run_ok_iff (periodOf : Period → Int → Int) (c : TestCall) (fs : List Flag) :
    c.run periodOf = .ok fs ↔ ∃ g, c.flagAt periodOf = .ok g ∧ fs = (List.range c.size).map g := by
  rw [run_eq]
  cases c.flagAt periodOf <;> simp [eq_comm]

theorem SeqArg.span_of_vals {a : SeqArg} {x y : Rat} (hs : a.isSeq = true) (hv : a.vals = [x, y]) :
    a.span = .ok (sort2 x y) := by
  simp [SeqArg.span, fixedLength, hs, hv]

theorem SeqArg.box_of_vals {a : SeqArg} {x0 y0 x1 y1 : Rat} (hs : a.isSeq = true)
    (hv : a.vals = [x0, y0, x1, y1]) : a.box = .ok ⟨x0, y0, x1, y1⟩ := by
  simp [SeqArg.box, fixedLength, hs, hv]

theorem TestCall.run_congr (periodOf : Period → Int → Int) {c c' : TestCall}
    (hs : c'.size = c.size) (h : c'.flagAt periodOf = c.flagAt periodOf) :
    c'.run periodOf = c.run periodOf := by
  rw [run_eq, run_eq, hs, h]

/-- A sequence argument read by the property and parsed by the code: both reject it, or it is two
    numbers and the two continue with them, so conformance is proved past the parse. -/
theorem SeqArg.conforms_span (a : SeqArg) (k : Rat → Rat → SpecOut)
    (F : Rat × Rat → Except Err (Nat → Flag)) (n : Nat)
    (h : ∀ x y, conforms (k x y) (Res.toObs ((F (sort2 x y)).map fun g => (List.range n).map g)) = true) :
    conforms (if !a.isSeq then .reject none else match a.vals with | [x, y] => k x y | _ => .reject none)
      (Res.toObs ((a.span >>= F).map fun g => (List.range n).map g)) = true := by
  unfold SeqArg.span fixedLength
  cases a.isSeq with
  | false => rfl
  | true =>
    match a.vals with
    | [x, y] => exact h x y
    | [] | [_] | _ :: _ :: _ :: _ => rfl

/-- The same for a bounding box and any relation `R` between what the property says and what the
    code returns that holds of a rejection on both sides: conformance (C14), "accepted by the
    property, hence returned" (C01). -/
theorem SeqArg.box_rel (R : SpecOut → Res → Prop) (hrej : ∀ e, R (.reject none) (.error e)) (a : SeqArg)
    (k : Rat → Rat → Rat → Rat → SpecOut) (F : Box → Except Err (Nat → Flag)) (n : Nat)
    (h : ∀ x0 y0 x1 y1, R (k x0 y0 x1 y1) ((F ⟨x0, y0, x1, y1⟩).map fun g => (List.range n).map g)) :
    R (if !a.isSeq then .reject none
       else match a.vals with | [x0, y0, x1, y1] => k x0 y0 x1 y1 | _ => .reject none)
      ((a.box >>= F).map fun g => (List.range n).map g) := by
  unfold SeqArg.box fixedLength
  cases a.isSeq with
  | false => exact hrej _
  | true =>
    match a.vals with
    | [x0, y0, x1, y1] => exact h x0 y0 x1 y1
    | [] | [_] | [_, _] | [_, _, _] | _ :: _ :: _ :: _ :: _ :: _ => exact hrej _

/-- Two calls parsed side by side: `x'` is accepted whenever `x` is, with flag functions related
    position by position.  The rules follow the shapes `flagAt` is written in (`pure`, bind, guard):
    a statement about two calls that differ in a parameter or an observation (C16, the locality
    half of C17) is proved along the parse, and says nothing where the first call raises. -/
def FlagRel (R : Nat → Flag → Flag → Prop) (x x' : Except Err (Nat → Flag)) : Prop :=
  ∀ g, x = .ok g → ∃ g', x' = .ok g' ∧ ∀ i, R i (g i) (g' i)

theorem FlagRel.pure {R : Nat → Flag → Flag → Prop} {g g' : Nat → Flag} (h : ∀ i, R i (g i) (g' i)) :
    FlagRel R (pure g) (pure g') := by
  rintro _ ⟨⟩
  exact ⟨g', rfl, h⟩

theorem FlagRel.bind {α : Type} {R : Nat → Flag → Flag → Prop} (a : Except Err α)
    {F F' : α → Except Err (Nat → Flag)} (h : ∀ m, FlagRel R (F m) (F' m)) :
    FlagRel R (a >>= F) (a >>= F') := by
  cases a with
  | error e => rintro _ ⟨⟩
  | ok m => exact h m

theorem FlagRel.guard {R : Nat → Flag → Flag → Prop} (p : Prop) [Decidable p] (e : Err)
    {x x' : Except Err (Nat → Flag)} (h : FlagRel R x x') :
    FlagRel R (if p then throw e else x) (if p then throw e else x') := by
  split
  · rintro _ ⟨⟩
  · exact h

end IoosQc
