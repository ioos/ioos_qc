/-
  The QARTOD priority ladder MISSING > UNKNOWN > FAIL > SUSPECT > GOOD.  Every pointwise test
  function replays its numpy assignments with `overrides` (the last true rule wins), each test in
  its own order.  Read by priority they are all the same function `ladder m u f s` of four
  conditions; `xxxAt_ladder` says which four (under the hypothesis that makes the order of the
  assignments immaterial, where one is needed).
-/
import IoosQc.Lemmas.Basic

namespace IoosQc

@[simp] theorem vgt_none (b : Rat) : vgt none b = false := rfl
@[simp] theorem vlt_none (b : Rat) : vlt none b = false := rfl
@[simp] theorem vge_none (b : Rat) : vge none b = false := rfl
@[simp] theorem vle_none (b : Rat) : vle none b = false := rfl
@[simp] theorem vgt_some (x b : Rat) : vgt (some x) b = decide (b < x) := rfl
@[simp] theorem vlt_some (x b : Rat) : vlt (some x) b = decide (x < b) := rfl
@[simp] theorem vge_some (x b : Rat) : vge (some x) b = decide (b ≤ x) := rfl
@[simp] theorem vle_some (x b : Rat) : vle (some x) b = decide (x ≤ b) := rfl
@[simp] theorem outside_none (s : Rat × Rat) : outside none s = false := rfl
@[simp] theorem outside_some (x : Rat) (s : Rat × Rat) :
    outside (some x) s = decide (x < s.1 ∨ s.2 < x) := by simp [outside, Bool.decide_or]
theorem outsideBox_some (x y : Rat) (b : Box) :
    outsideBox (some x) (some y) b = decide (x < b.minx ∨ b.maxx < x ∨ y < b.miny ∨ b.maxy < y) := by
  simp only [outsideBox, vlt_some, vgt_some]
  grind

theorem mem_anyFlag (f : Flag) : f ∈ anyFlag := by cases f <;> decide

@[simp] theorem overrides_nil (a : Flag) : overrides a [] = a := rfl
@[simp] theorem overrides_cons (a : Flag) (c : Bool) (f : Flag) (rs : List (Bool × Flag)) :
    overrides a ((c, f) :: rs) = overrides (if c then f else a) rs := rfl

def ladder (m u f s : Bool) : Flag :=
  if m then .missing else if u then .unknown else if f then .fail else if s then .suspect else .good

@[simp] theorem ladder_missing (u f s : Bool) : ladder true u f s = .missing := rfl
@[simp] theorem ladder_unknown (f s : Bool) : ladder false true f s = .unknown := rfl
@[simp] theorem ladder_fail (s : Bool) : ladder false false true s = .fail := rfl
@[simp] theorem ladder_suspect : ladder false false false true = .suspect := rfl
@[simp] theorem ladder_good : ladder false false false false = .good := rfl

theorem ladder_eq_missing (m u f s : Bool) : ladder m u f s = .missing ↔ m = true := by
  revert m u f s; decide
theorem ladder_eq_fail (m u f s : Bool) :
    ladder m u f s = .fail ↔ m = false ∧ u = false ∧ f = true := by
  revert m u f s; decide
theorem ladder_eq_suspect (m u f s : Bool) :
    ladder m u f s = .suspect ↔ m = false ∧ u = false ∧ f = false ∧ s = true := by
  revert m u f s; decide
theorem ladder_eq_good (m u f s : Bool) :
    ladder m u f s = .good ↔ m = false ∧ u = false ∧ f = false ∧ s = false := by
  revert m u f s; decide

/-- The ladder as the nested sentence of the properties. -/
theorem ladder_mem (m u f s : Bool) :
    ladder m u f s ∈ (if m = true then [Flag.missing] else if u = true then [Flag.unknown]
      else if f = true then [Flag.fail] else if s = true then [Flag.suspect] else [Flag.good]) := by
  revert m u f s; decide

theorem ladder_of_unknown (m f s f' s' : Bool) : ladder m true f s = ladder m true f' s' := by
  cases m <;> rfl

/-! ### The eleven tests (climatology: `classify`; the member loop is not a ladder) -/

theorem grossAt_ladder (f : Rat × Rat) (s : Option (Rat × Rat)) (x : V) :
    grossAt f s x = ladder x.isNone false (outside x f) (s.any (outside x)) := by
  cases x <;> cases s <;> rfl

theorem validAt_ladder (lo hi : V) (si ei : Bool) (x : V) :
    validAt lo hi si ei x = ladder x.isNone false
      ((match lo with | some l => if si then vlt x l else vle x l | none => false) ||
       (match hi with | some h => if ei then vgt x h else vge x h | none => false)) false := by
  have key : ∀ a b m : Bool,
      overrides .good [(a, .fail), (b, .fail), (m, .missing)] = ladder m false (a || b) false := by
    decide
  exact key _ _ _

/-- The SUSPECT condition of `locationAt`. -/
def hopOver (rangeMax : Option Rat) (n : Nat) (d : V) : Bool :=
  match rangeMax with | some r => decide (1 < n) && vgt d r | none => false

/-- `h`: a position lacking a coordinate has no hop over the limit (it is assigned FAIL before
    SUSPECT in the code). -/
theorem locationAt_ladder (b : Box) (rangeMax : Option Rat) (n : Nat) (lon lat d : V)
    (h : (lon.isNone || lat.isNone) = true → hopOver rangeMax n d = false) :
    locationAt b rangeMax n lon lat d =
      ladder (lon.isNone && lat.isNone) false ((lon.isNone != lat.isNone) || outsideBox lon lat b)
        (hopOver rangeMax n d) := by
  have key : ∀ x y s o : Bool, ((x && y) = true → o = false) → ((x || y) = true → s = false) →
      overrides .good [(x && y, .missing), (x != y, .fail), (s, .suspect), (o, .fail)]
        = ladder (x && y) false ((x != y) || o) s := by decide
  refine key _ _ _ _ ?_ h
  cases lon <;> cases lat <;> simp [outsideBox]

theorem locationAt_some (b : Box) (rangeMax : Option Rat) (n : Nat) (x y : Rat) (d : V) :
    locationAt b rangeMax n (some x) (some y) d =
      ladder false false (decide (x < b.minx ∨ b.maxx < x ∨ y < b.miny ∨ b.maxy < y))
        (hopOver rangeMax n d) := by
  simpa [outsideBox_some] using locationAt_ladder b rangeMax n (some x) (some y) d (by simp)

/-- What `locationAt` compares with `range_max`: nothing at the first point (the code's hop 0 is
    not over a non-negative limit), else the supplied hop. -/
theorem hopOver_hopAt (rangeMax : Option Rat) (n : Nat) (hops : List V) (i : Nat) (hn : i < n)
    (hr : ∀ r, rangeMax = some r → 0 ≤ r) :
    hopOver rangeMax n (hopAt hops i) =
      (match rangeMax with | some r => decide (i ≠ 0) && vgt (getV hops (i - 1)) r | none => false) := by
  unfold hopOver hopAt
  cases rangeMax with
  | none => rfl
  | some r =>
    cases i with
    | zero => simpa using fun _ => Rat.not_lt.2 (hr r rfl)
    | succ k =>
      have : 1 < n := by omega
      simp [this]

/-- A position lacking a coordinate has no hop over the limit: the hypothesis of `locationAt_ladder`. -/
theorem hopOver_lacking (rangeMax : Option Rat) (n : Nat) (lon lat hops : List V) (i : Nat) (hn : i < n)
    (hr : ∀ r, rangeMax = some r → 0 ≤ r) (hcons : HopsConsistent lon lat hops)
    (h : ((getV lon i).isNone || (getV lat i).isNone) = true) :
    hopOver rangeMax n (hopAt hops i) = false := by
  rw [hopOver_hopAt _ _ _ _ hn hr]
  cases rangeMax with
  | none => rfl
  | some r =>
    cases i with
    | zero => simp
    | succ k =>
      simp only [Bool.or_eq_true] at h
      simp [hcons k (Or.inr (Or.inr h))]

theorem classify_ladder (m : Member) (v : Rat) :
    classify m v = ladder false false
      (match m.fspan with | some f => decide (v < f.1 ∨ f.2 < v) | none => false)
      (decide (v < m.vspan.1 ∨ m.vspan.2 < v)) := by
  -- the same nested `if`, the SUSPECT condition once as a proposition, once decided
  unfold classify ladder
  cases m.fspan <;> simp only [Bool.false_eq_true, if_false, decide_eq_true_eq]

theorem spikeMag_some (m : SpikeMethod) (p x q : Rat) :
    spikeMag m (some p) (some x) (some q) = some (match m with
      | .average => rabs (x - (p + q) / 2)
      | .differential =>
        if (x - p) * (q - x) < 0 then lo2 (rabs (x - p)) (rabs (q - x)) else 0) := by
  cases m
  · rfl
  · simp only [spikeMag]; split <;> rfl

theorem spikeDiff_isNone (m : SpikeMethod) (xs : List V) (i : Nat)
    (hi : ¬ (i = 0 ∨ i + 1 = xs.length)) :
    (spikeDiff m xs i).isNone =
      ((getV xs (i - 1)).isNone || (getV xs i).isNone || (getV xs (i + 1)).isNone) := by
  simp only [spikeDiff, hi, if_false]
  cases getV xs (i - 1) <;> cases getV xs i <;> cases getV xs (i + 1) <;> try rfl
  rw [spikeMag_some]
  rfl

theorem spikeDiff_isNone_end (m : SpikeMethod) (xs : List V) (i : Nat)
    (h : i = 0 ∨ i + 1 = xs.length) :
    (spikeDiff m xs i).isNone =
      (match m with | .average => (getV xs i).isNone | .differential => false) := by
  unfold spikeDiff
  rw [if_pos h]
  cases m <;> simp

theorem spikeAt_ladder (m : SpikeMethod) (sus fail : Option Rat) (xs : List V) (i : Nat) :
    spikeAt m sus fail xs i =
      ladder (spikeDiff m xs i).isNone (decide (i = 0) || decide (i + 1 = xs.length))
        (fail.any (vgt (spikeDiff m xs i))) (sus.any (vgt (spikeDiff m xs i))) := by
  have key : ∀ s f u v m : Bool,
      overrides .good [(s, .suspect), (f, .fail), (u, .unknown), (v, .unknown), (m, .missing)]
        = ladder m (u || v) f s := by decide
  cases sus <;> cases fail <;> exact key _ _ _ _ _

theorem rocAt_ladder (thr : Rat) (xs : List V) (ts : List Int) (i : Nat) :
    rocAt thr xs ts i = ladder (getV xs i).isNone false false (vgt (rocRate xs ts i) thr) := by
  have key : ∀ s m : Bool, overrides .good [(s, .suspect), (m, .missing)] = ladder m false false s := by
    decide
  exact key _ _

theorem flatShort_ladder (x : V) :
    overrides .good [(x.isNone, .missing)] = ladder x.isNone false false false := by
  cases x <;> rfl

theorem flatAt_ladder (ks kf : Nat) (tol : Rat) (xs : List V) (i : Nat) :
    flatAt ks kf tol xs i =
      ladder (getV xs i).isNone false (flatHit xs kf tol i) (flatHit xs ks tol i) := by
  have key : ∀ s f m : Bool,
      overrides .good [(s, .suspect), (f, .fail), (m, .missing)] = ladder m false f s := by decide
  exact key _ _ _

theorem Stat.ge_eq_not_lt (s : Stat) (θ : Rat) (h : s.isUndef = false) :
    s.ge θ = !s.lt θ := by
  cases s with
  | undef => cases h
  | lin v => simp only [Stat.ge, Stat.lt, ← Rat.not_lt, decide_not]
  | var v => simp only [Stat.ge, Stat.lt, ← Rat.not_lt, decide_not, Bool.not_and]

theorem Stat.isUndef_of_lt {s : Stat} {θ : Rat} (h : s.lt θ = true) : s.isUndef = false := by
  cases s <;> simp_all [Stat.isUndef, Stat.lt]

theorem attenAt_ladder (st : Stat) (sus fail : Rat) (x : V) :
    attenAt st sus fail x = ladder x.isNone st.isUndef (st.lt fail) (st.lt sus) := by
  have key : ∀ g s u f m : Bool, (u = false → g = !s) → (u = true → f = false) →
      overrides .unknown [(g, .good), (s, .suspect), (u, .unknown), (f, .fail), (m, .missing)]
        = ladder m u f s := by decide
  refine key _ _ _ _ _ (Stat.ge_eq_not_lt st sus) ?_
  cases st <;> simp [Stat.isUndef, Stat.lt]

theorem densAt_ladder (sus fail : Option Rat) (rho z : List V) (i : Nat) :
    densAt sus fail rho z i =
      ladder (recMissing rho z i || (decide (0 < i) && recMissing rho z (i - 1))) false
        (fail.any (densPairBelow rho z · i)) (sus.any (densPairBelow rho z · i)) := by
  have key : ∀ s f m n : Bool,
      overrides .good [(s, .suspect), (f, .fail), (m, .missing), (n, .missing)]
        = ladder (m || n) false f s := by decide
  cases sus <;> cases fail <;> exact key _ _ _ _

theorem pressAt_ladder (p : List V) (flip : Bool) (i : Nat) :
    pressAt p flip i = ladder false false false (decide (0 < i) &&
      (match pressDelta p (i - 1) with
       | some d => if flip then decide (0 ≤ d) else decide (d ≤ 0)
       | none => false)) := by
  have key : ∀ s : Bool, overrides .good [(s, .suspect)] = ladder false false false s := by decide
  exact key _

/-- The speed the code compares with the thresholds. -/
def speedV (ts : List Int) (hops : List V) (i : Nat) : V :=
  if i = 0 then some 0 else (hopAt hops i).map fun m => rabs (m / elapsed ts i)

/-- `h`: past the first point, a position with neither coordinate has no hop into it (the code
    assigns its MISSING first, before SUSPECT / FAIL). -/
theorem speedAt_ladder (sus fail : Rat) (lon lat : List V) (ts : List Int) (hops : List V) (i : Nat)
    (h : ((getV lon i).isNone && (getV lat i).isNone) = true → i = 0 ∨ hopAt hops i = none) :
    speedAt sus fail lon lat ts hops i =
      ladder (hopAt hops i).isNone (decide (i = 0)) (vgt (speedV ts hops i) fail) (vgt (speedV ts hops i) sus) := by
  have key : ∀ b s f u m : Bool, (b = true → u = true ∨ m = true) →
      overrides .good [(b, .missing), (s, .suspect), (f, .fail), (u, .unknown), (m, .missing)]
        = ladder m u f s := by decide
  refine key _ _ _ _ _ ?_
  simpa using h

theorem hopAt_none_of_consistent {lon lat hops : List V} (h : hopsConsistent lon lat hops = true)
    (i : Nat) (hm : ((getV lon i).isNone && (getV lat i).isNone) = true) :
    i = 0 ∨ hopAt hops i = none := by
  cases i with
  | zero => exact .inl rfl
  | succ k =>
    rw [Bool.and_eq_true] at hm
    exact .inr (hcons_of_consistent h k (.inr (.inr (.inl hm.1))))

end IoosQc
