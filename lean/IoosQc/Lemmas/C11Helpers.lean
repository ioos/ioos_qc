/-
  For C11 (flat_line_test): `Array.qsort` permutes, so the median of a constant list of steps is
  that step (`medianStep_regular`); `⌊⌊θ⌋ / D⌋ = ⌊θ / D⌋` for an integer step `D ≥ 1`
  (`flatCount_eq`); `spread` (|max − min|) is max − min (`flatHit_eq`).
  `Array.qsort.sort` / `Array.qpartition.loop` are private to core, hence `open private`, from
  Batteries (no `require`: the module is found in the toolchain's library directory, next to
  core).  The `qsort` lemmas go along the recursion of those two definitions as core 4.33 writes
  them (`fun_induction`: which branch swaps, in which order); another toolchain may break them.
-/
import IoosQc.Lemmas.Ladder
import IoosQc.Lemmas.MinMax
import Batteries.Tactic.OpenPrivate

namespace IoosQc
open private Array.qsort.sort Array.qpartition.loop in Array.qsort Array.qpartition

section qsort
variable {α : Type}

theorem qpartition_loop_perm {n : Nat} (lt : α → α → Bool) (lo hi : Nat) (hhi : hi < n) (pivot : α)
    (as : Vector α n) (i k : Nat) (ilo : lo ≤ i) (ik : i ≤ k) (w : k ≤ hi) :
    (Array.qpartition.loop lt lo hi hhi pivot as i k ilo ik w).2.Perm as := by
  -- along the loop's own recursion: every branch swaps or leaves the vector
  fun_induction Array.qpartition.loop lt lo hi hhi pivot as i k ilo ik w
  next ih => exact ih.trans (Vector.swap_perm ..)
  next ih => exact ih
  next => dsimp only; exact Vector.swap_perm ..

theorem ite_swap_perm {n : Nat} (c : Prop) [Decidable c] (as : Vector α n) (i j : Nat) (hi : i < n)
    (hj : j < n) : (if c then as.swap i j hi hj else as).Perm as := by
  split
  · exact Vector.swap_perm ..
  · exact .rfl

theorem qpartition_perm {n : Nat} (lt : α → α → Bool) (as as' : Vector α n) (lo hi : Nat)
    (w : lo ≤ hi) (hlo : lo < n) (hhi : hi < n) (m : {m : Nat // lo ≤ m ∧ m ≤ hi})
    (heq : Array.qpartition as lt lo hi w hlo hhi = (m, as')) : as'.Perm as := by
  rw [← show (Array.qpartition as lt lo hi w hlo hhi).2 = as' from congrArg Prod.snd heq]
  unfold Array.qpartition
  dsimp only
  exact (qpartition_loop_perm ..).trans
    ((ite_swap_perm ..).trans ((ite_swap_perm ..).trans (ite_swap_perm ..)))

theorem qsort_sort_perm {n : Nat} (lt : α → α → Bool) (as : Vector α n) (lo hi : Nat) (w : lo ≤ hi)
    (hlo : lo < n) (hhi : hi < n) : (Array.qsort.sort lt as lo hi w hlo hhi).Perm as := by
  fun_induction Array.qsort.sort lt as lo hi w hlo hhi
  next heq _ => exact qpartition_perm lt _ _ _ _ _ _ _ _ heq
  next heq _ _ ih2 ih1 => exact ih1.trans (ih2.trans (qpartition_perm lt _ _ _ _ _ _ _ _ heq))
  next => exact .rfl

theorem qsort_perm (lt : α → α → Bool) (as : Array α) (lo hi : Nat) : (as.qsort lt lo hi).Perm as := by
  unfold Array.qsort
  split
  · exact .rfl
  · exact Vector.perm_iff_toArray_perm.1 (qsort_sort_perm ..)

end qsort

theorem sortInts_perm (l : List Int) : (sortInts l).Perm l :=
  Array.perm_iff_toList_perm.1 (qsort_perm _ l.toArray _ _)

theorem medianStep_regular (ts : List Int) (D : Int) (rest : List Int)
    (hd : diffs ts = D :: rest) (hr : regularStep ts D = true) : medianStep ts = D := by
  unfold medianStep
  have hp := sortInts_perm (diffs ts)
  have hlen := hp.length_eq
  have hall : ∀ x ∈ sortInts (diffs ts), x = D := fun x hx => by
    simpa [regularStep] using List.all_eq_true.1 hr x (hp.mem_iff.1 hx)
  generalize sortInts (diffs ts) = d at *
  have hget : ∀ i, i < d.length → d.getD i 0 = D := fun i hi => by
    rw [List.getD_eq_getElem?_getD, List.getElem?_eq_getElem hi]
    exact hall _ (List.getElem_mem hi)
  have hpos : d.length ≠ 0 := by rw [hlen, hd]; exact Nat.succ_ne_zero _
  have h2 : d.length / 2 < d.length := Nat.div_lt_self (Nat.pos_of_ne_zero hpos) (by decide)
  dsimp only
  rw [if_neg hpos, hget _ h2]
  split
  · rfl
  · rw [hget _ (by omega)]; omega

theorem floor_div_int (θ : Rat) (D : Int) (hD : 1 ≤ D) :
    θ.floor / D = (θ / (D : Rat)).floor := by
  have key : ∀ z : Int, z ≤ θ.floor / D ↔ z ≤ (θ / (D : Rat)).floor := by
    intro z
    rw [Int.le_ediv_iff_mul_le (by omega), Rat.le_floor_iff, Rat.le_floor_iff, Rat.intCast_mul,
      ← Rat.not_lt (a := θ / (D : Rat)), Rat.div_lt_iff (Rat.intCast_pos.2 (by omega)), Rat.not_lt]
  apply Int.le_antisymm
  · exact (key _).1 (Int.le_refl _)
  · exact (key _).2 (Int.le_refl _)

theorem flatCount_eq (θ : Rat) (D : Int) (hD : 1 ≤ D) :
    flatCount θ D = ((θ / (D : Rat)).floor).toNat := by
  unfold flatCount; rw [floor_div_int θ D hD]

theorem flatHit_eq (xs : List V) (k : Nat) (tol : Rat) (i : Nat) :
    flatHit xs k tol i = flatWindowBelow xs k tol i := by
  unfold flatHit flatWindowBelow
  cases h : present (windowEnding xs i k) with
  | nil => simp [spread, lmax]
  | cons v vs => simp [spread_cons]

end IoosQc
