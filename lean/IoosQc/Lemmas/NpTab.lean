/-
  Every array the transcriptions of `Model/Np.lean` / `Model/NpSrc.lean` build is a tabulation `tab n f`.  An input, slice or
  elementwise primitive has an equation `prim (tab n f) … = tab n' F` in the simp set `np` (the elementwise ones by unfolding to
  `map` / `zipWith` / `replicate`), so `simp only [np]` computes a program to `tab n F`, and its agreement with the pointwise model
  `(List.range n).map G` is `∀ i < n, F i = G i` (`tab_congr`): no list indexing or bounds in a refinement proof.  A primitive of
  another kind (`npWhere`, `rollingWindow`, `anyB`, `noneUnmasked`) is handled in the proof of the program that uses it.  The equations of the assignments need arrays whose lengths are syntactically the same term, so a proof first rewrites
  the inputs' lengths to one of them (`← hl`).
-/
import IoosQc.Model.Np
import IoosQc.Lemmas.Basic
import IoosQc.Lemmas.NpAttr

namespace IoosQc.Np

def tab {α : Type} (n : Nat) (f : Nat → α) : List α := (List.range n).map f

theorem getElem?_tab {α : Type} (n : Nat) (f : Nat → α) (i : Nat) : (tab n f)[i]? = if i < n then some (f i) else none := by
  by_cases h : i < n <;> simp [tab, h]

theorem getD_tab {α : Type} {n i : Nat} (f : Nat → α) (d : α) (h : i < n) : (tab n f).getD i d = f i := by
  rw [List.getD_eq_getElem?_getD, getElem?_tab, if_pos h]; rfl

@[np] theorem length_tab {α : Type} (n : Nat) (f : Nat → α) : (tab n f).length = n := by simp [tab]

theorem tab_congr {α : Type} {n : Nat} {f g : Nat → α} (h : ∀ i, i < n → f i = g i) : tab n f = tab n g :=
  List.map_congr_left fun i hi => h i (List.mem_range.mp hi)

theorem map_range {α : Type} (n : Nat) (f : Nat → α) : (List.range n).map f = tab n f := rfl

@[np] theorem replicate_eq_tab {α : Type} (n : Nat) (x : α) : List.replicate n x = tab n fun _ => x := by
  apply List.ext_getElem?; intro i; rw [getElem?_tab, List.getElem?_replicate]

theorem eq_tab {α : Type} (l : List α) (d : α) : l = tab l.length fun i => l.getD i d := by
  apply List.ext_getElem?; intro i; rw [getElem?_tab]
  by_cases h : i < l.length
  · simp [h, List.getD_eq_getElem?_getD]
  · simp [h]

@[np] theorem map_tab {α β : Type} (g : α → β) (n : Nat) (f : Nat → α) : (tab n f).map g = tab n fun i => g (f i) := by
  simp [tab]

@[np] theorem zipWith_tab {α β γ : Type} (g : α → β → γ) (n m : Nat) (f : Nat → α) (f' : Nat → β) :
    List.zipWith g (tab n f) (tab m f') = tab (min n m) fun i => g (f i) (f' i) :=
  List.ext_getElem (by simp [tab]) fun i _ _ => by simp [tab]

theorem drop_tab {α : Type} (k n : Nat) (f : Nat → α) : (tab n f).drop k = tab (n - k) fun i => f (i + k) :=
  List.ext_getElem (by simp [tab]) fun i _ _ => by simp [tab, Nat.add_comm]

theorem take_tab {α : Type} (k n : Nat) (f : Nat → α) : (tab n f).take k = tab (min k n) f :=
  List.ext_getElem (by simp [tab]) fun i _ _ => by simp [tab]

@[np] theorem append_tab {α : Type} (n m : Nat) (f g : Nat → α) :
    tab n f ++ tab m g = tab (n + m) fun i => if i < n then f i else g (i - n) :=
  List.ext_getElem (by simp [tab]) fun i _ _ => by
    simp only [tab, List.getElem_append, List.length_map, List.length_range, List.getElem_map, List.getElem_range]; split <;> rfl

theorem cons_tab {α : Type} (x : α) (n : Nat) (f : Nat → α) :
    x :: tab n f = tab (n + 1) fun i => if i = 0 then x else f (i - 1) :=
  List.ext_getElem (by simp [tab]) fun i _ _ => by cases i <;> simp [tab]

theorem tab_succ {α : Type} (n : Nat) (f : Nat → α) : tab (n + 1) f = f 0 :: tab n fun i => f (i + 1) := by
  rw [cons_tab]; exact tab_congr fun i _ => by cases i <;> simp

/-- A loop whose every pass acts cell by cell is the fold of each cell (the member loop of climatology, the priority loop of
    `qartod_compare`). -/
theorem foldl_tab {α β : Type} {step : List α → β → List α} {n : Nat} (g : β → Nat → α → α)
    (h : ∀ b f, step (tab n f) b = tab n fun i => g b i (f i)) (bs : List β) (f : Nat → α) :
    bs.foldl step (tab n f) = tab n fun i => bs.foldl (fun a b => g b i a) (f i) := by
  induction bs generalizing f with
  | nil => rfl
  | cons b bs ih => rw [List.foldl_cons, h, ih]; rfl

theorem map_eq_tab {β : Type} (xs : List V) (g : V → β) : xs.map g = tab xs.length fun i => g (getV xs i) :=
  map_eq_range_getV xs g

@[np] theorem ofInput_eq_tab (xs : List V) : ofInput xs = tab xs.length fun i => cellOf (getV xs i) := map_eq_tab xs cellOf

theorem length_ofInput (xs : List V) : (ofInput xs).length = xs.length := by rw [ofInput_eq_tab, length_tab]

/-! Raw comparisons on an input cell are the logical ones (NaN under the mask compares False).  With these in `np` the nested `if`
    a program computes to is `overrides` on the model's rule list by `rfl`. -/

@[np] theorem cellOf_m (x : V) : (cellOf x).m = x.isNone := by cases x <;> rfl
@[np] theorem cellOf_gtS (x : V) (r : Rat) : (cellOf x).d.gtS r = vgt x r := by cases x <;> rfl
@[np] theorem cellOf_ltS (x : V) (r : Rat) : (cellOf x).d.ltS r = vlt x r := by cases x <;> rfl
@[np] theorem cellOf_geS (x : V) (r : Rat) : (cellOf x).d.geS r = vge x r := by cases x <;> rfl
@[np] theorem cellOf_leS (x : V) (r : Rat) : (cellOf x).d.leS r = vle x r := by cases x <;> rfl
@[np] theorem cellOf_isNan (x : V) : (cellOf x).d.isNan = x.isNone := by cases x <;> rfl

/-- The cell carries the logical value `d`; what it holds under the mask is unconstrained (the "leak"). -/
def cellVal (c : Cell) (d : V) : Prop := c.m = d.isNone ∧ ∀ v, d = some v → c.d = .num v

theorem cellVal_ltS {c : Cell} {d : V} (h : cellVal c d) (r : Rat) : (!c.m && c.d.ltS r) = vlt d r := by
  obtain ⟨hm, hv⟩ := h
  cases d with
  | none => simp [hm, vlt]
  | some v => simp [hm, hv v rfl, vlt, Fl.ltS]

@[np] theorem ofInputJunk_eq_tab (xs : List V) (junk : List Fl) :
    ofInputJunk xs junk = tab xs.length fun i => junkCell (getV xs i) (junk.getD i .nan) := rfl

@[np] theorem greatCircle_eq_tab (hops : List V) (n : Nat) : greatCircle hops n = tab n fun i => hopCell (hopAt hops i) := rfl

@[np] theorem dtSeconds_eq_tab (ts : List Int) :
    dtSeconds ts = tab (ts.length - 1) fun i => ((ts.getD (i + 1) 0 - ts.getD i 0 : Int) : Rat) := by
  rw [dtSeconds, tail1, init1, eq_tab ts 0, length_tab, drop_tab, take_tab, zipWith_tab]
  simp only [← eq_tab]
  rw [show min (ts.length - 1) (min (ts.length - 1) ts.length) = ts.length - 1 by omega]

@[np] theorem tail1_tab {α : Type} (n : Nat) (f : Nat → α) : tail1 (tab n f) = tab (n - 1) fun i => f (i + 1) := drop_tab 1 n f
@[np] theorem tail2_tab {α : Type} (n : Nat) (f : Nat → α) : tail2 (tab n f) = tab (n - 2) fun i => f (i + 2) := drop_tab 2 n f
@[np] theorem init1_tab {α : Type} (n : Nat) (f : Nat → α) : init1 (tab n f) = tab (n - 1) f := by
  rw [init1, length_tab, take_tab, Nat.min_eq_left (Nat.sub_le n 1)]
@[np] theorem init2_tab {α : Type} (n : Nat) (f : Nat → α) : init2 (tab n f) = tab (n - 2) f := by
  rw [init2, length_tab, take_tab, Nat.min_eq_left (Nat.sub_le n 2)]

@[np] theorem setInner_tab {α : Type} (n : Nat) (f g : Nat → α) :
    setInner (tab n f) (tab (n - 2) g) = tab n fun i => if i = 0 ∨ i + 1 = n then f i else g (i - 1) := by
  cases n with
  | zero => rfl
  | succ k =>
    rw [tab_succ, setInner, length_tab, drop_tab, append_tab, cons_tab,
      show k + 1 - 2 + (k - (k + 1 - 2)) + 1 = k + 1 by omega]
    apply tab_congr; intro i hi
    cases i with
    | zero => simp
    | succ j =>
      simp only [Nat.succ_ne_zero, if_false, Nat.add_sub_cancel, false_or]
      split
      · rw [if_neg (by omega)]
      · rw [if_pos (by omega)]; congr 1; omega   -- the last cell: kept

@[np] theorem setTail_tab {α : Type} (n : Nat) (f g : Nat → α) :
    setTail (tab n f) (tab (n - 1) g) = tab n fun i => if i = 0 then f 0 else g (i - 1) := by
  cases n with
  | zero => rfl
  | succ k =>
    rw [tab_succ, setTail, length_tab, Nat.add_sub_cancel, drop_tab, Nat.sub_self, show tab 0 _ = ([] : List α) from rfl,
      List.append_nil, cons_tab]

@[np] theorem setInit1_tab {α : Type} (n : Nat) (f g : Nat → α) :
    setInit1 (tab n f) (tab (n - 1) g) = tab n fun i => if i + 1 < n then g i else f i := by
  rw [setInit1, length_tab, drop_tab, append_tab, show n - 1 + (n - (n - 1)) = n by omega]
  apply tab_congr; intro i hi
  by_cases h : i < n - 1
  · have : i + 1 < n := by omega
    simp [h, this]
  · have : ¬ i + 1 < n := by omega
    simp [h, this]; congr 1; omega

@[np] theorem setFirst_tab (n : Nat) (f : Nat → Flag) (x : Flag) : setFirst (tab n f) x = tab n fun i => if i = 0 then x else f i := by
  cases n with
  | zero => rfl
  | succ k => rw [tab_succ, setFirst, cons_tab]; exact tab_congr fun i _ => by cases i <;> simp

@[np] theorem setLast_tab (n : Nat) (f : Nat → Flag) (x : Flag) : setLast (tab n f) x = tab n fun i => if i + 1 = n then x else f i := by
  cases n with
  | zero => rfl
  | succ k =>
    rw [tab_succ, setLast.eq_2 _ _ (by simp), ← tab_succ, length_tab, take_tab, show [x] = tab 1 fun _ => x from rfl, append_tab,
      show min (k + 1 - 1) (k + 1) + 1 = k + 1 by omega]
    apply tab_congr; intro i hi
    split
    · rw [if_neg (by omega)]
    · rw [if_pos (by omega)]

theorem set_tab {α : Type} (n : Nat) (f : Nat → α) (j : Nat) (x : α) :
    (tab n f).set j x = tab n fun i => if i = j then x else f i :=
  List.ext_getElem (by simp [tab]) fun i _ _ => by simp [tab, List.getElem_set, eq_comm]

@[np] theorem setIdx_tab (n : Nat) (f : Nat → Flag) (idx : List Nat) (x : Flag) :
    setIdx (tab n f) idx x = tab n fun i => if i ∈ idx then x else f i := by
  induction idx generalizing f with
  | nil => simp [setIdx]
  | cons j js ih =>
    rw [setIdx, List.foldl_cons, set_tab, ← setIdx, ih]
    exact tab_congr fun i _ => by by_cases h : i = j <;> simp [h]

theorem setAt0_tab (n : Nat) (f : Nat → Flag) (x : Flag) (h : 0 < n) :
    setAt0 (tab n f) x = .ok (tab n fun i => if i = 0 then x else f i) := by
  rw [← setFirst_tab]
  cases n with
  | zero => omega
  | succ k => rw [tab_succ]; rfl

-- each by definition a `List.replicate`, `List.map` or `List.zipWith` (`maDiff`: of two slices), which the equations above compute
attribute [np] zeros ones maBin maDivS uf1 uf2 maskedInvalid maDiff maDivArr gtS ltS geS leS bor maskOf setWhereB setWhere
  setZeroWhereB band bxor bor2 eqTrue andB notB notP plainB zipMask isnanData geR leR emptyFlags fillFlags filledFalse
  statGe statLt statIsNan npLeS npMulS asInstants isoWeekOf attrOf

-- Lengths the equations themselves produce, brought back to the common term: `zipWith_tab` on two arrays of length `n` leaves
-- `min n n`; a slice of a slice (`np.diff(a)[:-1]`, `a[:-1][1:]`) has length `n - 1 - 1` where `setInner_tab` expects `n - 2`.
@[np] theorem sub_one_sub_one (n : Nat) : n - 1 - 1 = n - 2 := by omega
attribute [np] Nat.min_self

-- Unfolded, not rewritten with `ok a >>= f = f a`: that costs five times as much, every `>>=` being tried against it up to unfolding.
attribute [exc] bind Except.bind pure Except.pure throw throwThe MonadExceptOf.throw

/-- `List.forIn_pure_yield_eq_foldl` for a body given up to an equation -/
theorem forIn_eq_foldl {m : Type → Type} [Monad m] [LawfulMonad m] {α β : Type} (l : List α) (init : β)
    (f : α → β → m (ForInStep β)) (g : α → β → β)
    (h : ∀ a b, f a b = pure (ForInStep.yield (g a b))) : forIn l init f = pure (l.foldl (fun b a => g a b) init) := by
  obtain rfl : f = fun a b => pure (ForInStep.yield (g a b)) := funext fun a => funext (h a)
  exact List.forIn_pure_yield_eq_foldl g init

/-- a `for` loop that appends some elements per round, or (`forIn_push`) at most one -/
theorem forIn_append {α β : Type} (l : List α) (init : List β) (f : α → List β → Id (ForInStep (List β))) (g : α → List β)
    (h : ∀ a c, f a c = pure (.yield (c ++ g a))) : forIn l init f = pure (init ++ l.flatMap g) := by
  rw [forIn_eq_foldl (m := Id) l init f (fun a c => c ++ g a) h, List.foldl_append_eq_append, List.flatMap_def]

theorem forIn_push {α β : Type} (l : List α) (init : List β) (f : α → List β → Id (ForInStep (List β))) (g : α → Option β)
    (h : ∀ a c, f a c = pure (.yield (c ++ (g a).toList))) : forIn l init f = pure (init ++ l.filterMap g) := by
  rw [forIn_append l init f _ h]
  congr 2
  induction l with
  | nil => rfl
  | cons a l ih => cases hg : g a <;> simp [hg, ih]

end IoosQc.Np
