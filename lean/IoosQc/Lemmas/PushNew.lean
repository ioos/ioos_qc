/-
  Folds of `pushNew`: the collection keys of C06, the windows of `Config.contexts` (Sys.lean), the column writes of C19.
-/

namespace IoosQc

/-- append `x` unless an element with the same key is already there (`if k not in d: d[k] = v`) -/
def pushNew {α κ : Type} [DecidableEq κ] (key : α → κ) (acc : List α) (x : α) : List α :=
  if acc.any (fun a => key a = key x) then acc else acc ++ [x]

variable {α κ : Type} [DecidableEq κ] (key : α → κ)

theorem pushNew_of_mem {acc : List α} {x : α} (h : key x ∈ acc.map key) : pushNew key acc x = acc := by
  obtain ⟨a, ha, hk⟩ := List.mem_map.1 h
  exact if_pos (List.any_eq_true.2 ⟨a, ha, decide_eq_true hk⟩)

theorem pushNew_of_not_mem {acc : List α} {x : α} (h : key x ∉ acc.map key) : pushNew key acc x = acc ++ [x] := by
  refine if_neg fun hany => ?_
  obtain ⟨a, ha, hk⟩ := List.any_eq_true.1 hany
  exact h (List.mem_map.2 ⟨a, ha, of_decide_eq_true hk⟩)

theorem mem_map_pushNew {acc : List α} {x : α} {k : κ} :
    k ∈ (pushNew key acc x).map key ↔ k ∈ acc.map key ∨ k = key x := by
  by_cases hx : key x ∈ acc.map key
  · rw [pushNew_of_mem key hx]
    exact ⟨Or.inl, fun h => h.elim id fun e => e ▸ hx⟩
  · simp [pushNew_of_not_mem key hx]

/-- `pushNew` only looks at keys, so selecting by key commutes with it -/
theorem filter_pushNew (P : κ → Bool) (acc : List α) (x : α) :
    (pushNew key acc x).filter (fun a => P (key a)) =
      if P (key x) then pushNew key (acc.filter fun a => P (key a)) x else acc.filter fun a => P (key a) := by
  by_cases hx : key x ∈ acc.map key
  · rw [pushNew_of_mem key hx]
    split
    · next hP =>
      obtain ⟨a, ha, hk⟩ := List.mem_map.1 hx
      exact (pushNew_of_mem key (List.mem_map.2 ⟨a, List.mem_filter.2 ⟨ha, by rwa [hk]⟩, hk⟩)).symm
    · rfl
  · rw [pushNew_of_not_mem key hx, List.filter_append]
    split
    · next hP =>
      rw [pushNew_of_not_mem key fun h => hx (List.map_subset key List.filter_sublist.subset h),
        List.filter_cons_of_pos (p := fun a => P (key a)) hP, List.filter_nil]
    · next hP => rw [List.filter_cons_of_neg (p := fun a => P (key a)) hP, List.filter_nil, List.append_nil]

theorem foldl_pushNew_nodup (xs : List α) {acc : List α} (h : (acc.map key).Nodup) :
    ((xs.foldl (pushNew key) acc).map key).Nodup := by
  induction xs generalizing acc with
  | nil => exact h
  | cons x xs ih =>
    refine ih ?_
    by_cases hx : key x ∈ acc.map key
    · rwa [pushNew_of_mem key hx]
    · rw [pushNew_of_not_mem key hx, List.map_append, List.nodup_append]
      exact ⟨h, by simp, fun a ha b hb => by simp at hb; exact fun e => hx (hb ▸ e ▸ ha)⟩

theorem mem_map_foldl_pushNew (xs : List α) {acc : List α} {k : κ} :
    k ∈ (xs.foldl (pushNew key) acc).map key ↔ k ∈ acc.map key ∨ k ∈ xs.map key := by
  induction xs generalizing acc with
  | nil => simp
  | cons x xs ih => rw [List.foldl_cons, ih, mem_map_pushNew, List.map_cons, List.mem_cons, or_assoc]

theorem filter_foldl_pushNew (P : κ → Bool) (xs : List α) (acc : List α) :
    (xs.foldl (pushNew key) acc).filter (fun a => P (key a)) =
      (xs.filter fun a => P (key a)).foldl (pushNew key) (acc.filter fun a => P (key a)) := by
  induction xs generalizing acc with
  | nil => rfl
  | cons x xs ih =>
    rw [List.foldl_cons, ih, filter_pushNew, List.filter_cons]
    split <;> rfl

theorem foldl_pushNew_of_nodup (xs : List α) {acc : List α} (h : ((acc ++ xs).map key).Nodup) :
    xs.foldl (pushNew key) acc = acc ++ xs := by
  induction xs generalizing acc with
  | nil => simp
  | cons x xs ih =>
    have hx : key x ∉ acc.map key := by
      rw [List.map_append, List.nodup_append] at h
      exact fun hm => h.2.2 _ hm _ (List.mem_map_of_mem List.mem_cons_self) rfl
    rw [List.foldl_cons, pushNew_of_not_mem key hx, ih (by rwa [List.append_assoc]), List.append_assoc]
    rfl

/-- first write wins -/
theorem find?_foldl_pushNew (xs : List α) {acc : List α} {k : κ} :
    (xs.foldl (pushNew key) acc).find? (fun a => key a = k) = (acc ++ xs).find? (fun a => key a = k) := by
  induction xs generalizing acc with
  | nil => rw [List.foldl_nil, List.append_nil]
  | cons y ys ih =>
    rw [List.foldl_cons, ih]
    by_cases hy : key y ∈ acc.map key
    · rw [pushNew_of_mem key hy, List.find?_append, List.find?_append, List.find?_cons]
      split
      · next hk =>
        -- `acc` already holds an element with the key of `y`
        obtain ⟨a, ha, hak⟩ := List.mem_map.1 hy
        obtain ⟨b, hb⟩ := Option.isSome_iff_exists.1
          (List.find?_isSome.2 ⟨a, ha, by simpa [hak] using hk⟩ : (acc.find? fun a => key a = k).isSome)
        rw [hb]; rfl
      · rfl
    · rw [pushNew_of_not_mem key hy, List.append_assoc]; rfl

end IoosQc
