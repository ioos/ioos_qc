/-
  The comparisons the tests make are monotone in their parameters: what a threshold, span or box
  flags is also flagged by a stricter one.  C16 combines these with the priority ladder
  (`c16a_ok_ladder`) into `NoBetter`, a `FlagRel` of Lemmas/NormalForm between two calls.
-/
import IoosQc.Props.C16
import IoosQc.Lemmas.Ladder
import IoosQc.Lemmas.NormalForm

namespace IoosQc

theorem vgt_anti (v : V) {a b : Rat} (h : b ≤ a) (hv : vgt v a = true) : vgt v b = true := by
  cases v with
  | none => exact hv
  | some x => simp only [vgt_some, decide_eq_true_eq] at hv ⊢; grind

theorem vlt_mono (v : V) {a b : Rat} (h : a ≤ b) (hv : vlt v a = true) : vlt v b = true := by
  cases v with
  | none => exact hv
  | some x => simp only [vlt_some, decide_eq_true_eq] at hv ⊢; grind

theorem outside_mono (x : V) {s s' : Rat × Rat} (h₁ : s.1 ≤ s'.1) (h₂ : s'.2 ≤ s.2)
    (h : outside x s = true) : outside x s' = true := by
  simp only [outside, Bool.or_eq_true] at h ⊢
  exact h.imp (vlt_mono x h₁) (vgt_anti x h₂)

theorem outsideBox_mono (lon lat : V) {b b' : Box}
    (hx0 : b.minx ≤ b'.minx) (hy0 : b.miny ≤ b'.miny) (hx1 : b'.maxx ≤ b.maxx) (hy1 : b'.maxy ≤ b.maxy)
    (h : outsideBox lon lat b = true) : outsideBox lon lat b' = true := by
  simp only [outsideBox, Bool.or_eq_true] at h ⊢
  exact h.imp (Or.imp (Or.imp (vlt_mono lon hx0) (vlt_mono lat hy0)) (vgt_anti lon hx1))
    (vgt_anti lat hy1)

theorem nested_sort2 {a b a' b' : Rat} (h : nested (a', b') (a, b) = true) :
    (sort2 a b).1 ≤ (sort2 a' b').1 ∧ (sort2 a' b').2 ≤ (sort2 a b).2 := by
  simpa only [nested, sort2_eq, Bool.and_eq_true, decide_eq_true_eq] using h

/-- `n` is read as given, as the climatology members are; for an unsorted `o` this fails
    (`c16a_climatology_needs_sorted`). -/
theorem nested_outside {n o : Rat × Rat} (h : nested n o = true) (ho : o.1 ≤ o.2) {v : Rat}
    (hv : v < o.1 ∨ o.2 < v) : v < n.1 ∨ n.2 < v := by
  simp only [nested, lo2, hi2, Bool.and_eq_true] at h
  grind

theorem optLe_imp (P : Rat → Bool) (hP : ∀ a b, b ≤ a → P a = true → P b = true)
    {n o : Option Rat} (h : optLe n o = true) (ho : o.any P = true) : n.any P = true := by
  cases o with
  | none => cases ho
  | some a =>
    cases n with
    | none => cases h
    | some b => exact hP a b (of_decide_eq_true h) ho

theorem optGe_imp (P : Rat → Bool) (hP : ∀ a b, a ≤ b → P a = true → P b = true)
    {n o : Option Rat} (h : optGe n o = true) (ho : o.any P = true) : n.any P = true := by
  cases o with
  | none => cases ho
  | some a =>
    cases n with
    | none => cases h
    | some b => exact hP a b (of_decide_eq_true h) ho

theorem lowerStricter_imp {lo lo' : V} {si si' : Bool} (x : V) :
    lowerStricter lo' si' lo si = true →
    (match lo with | some l => if si then vlt x l else vle x l | none => false) = true →
    (match lo' with | some l => if si' then vlt x l else vle x l | none => false) = true := by
  intro h hx
  cases lo with
  | none => cases hx
  | some o =>
    cases lo' with
    | none => cases h
    | some n =>
      cases x with
      | none => cases si <;> cases hx
      | some v =>
        simp only [lowerStricter, Bool.or_eq_true, Bool.and_eq_true, decide_eq_true_eq, vlt_some,
          vle_some] at h hx ⊢
        grind

theorem upperStricter_imp {hi hi' : V} {ei ei' : Bool} (x : V) :
    upperStricter hi' ei' hi ei = true →
    (match hi with | some l => if ei then vgt x l else vge x l | none => false) = true →
    (match hi' with | some l => if ei' then vgt x l else vge x l | none => false) = true := by
  intro h hx
  cases hi with
  | none => cases hx
  | some o =>
    cases hi' with
    | none => cases h
    | some n =>
      cases x with
      | none => cases ei <;> cases hx
      | some v =>
        simp only [upperStricter, Bool.or_eq_true, Bool.and_eq_true, decide_eq_true_eq, vgt_some,
          vge_some] at h hx ⊢
        grind

/-- Same flag, or a move up in GOOD < SUSPECT < FAIL: slightly stronger than `C16.holdsAt`, which
    also accepts UNKNOWN ↔ MISSING. -/
def c16a_ok : Flag → Flag → Bool
  | .good, .good | .good, .suspect | .good, .fail => true
  | .suspect, .suspect | .suspect, .fail => true
  | .fail, .fail => true
  | .unknown, .unknown => true
  | .missing, .missing => true
  | _, _ => false

theorem c16a_ok_holdsAt (f g : Flag) (h : c16a_ok f g = true) :
    C16.holdsAt (f.code : Int) (g.code : Int) = true := by
  cases f <;> cases g <;> revert h <;> decide

theorem c16a_ok_refl (f : Flag) : c16a_ok f f = true := by cases f <;> rfl

/-- The one fact about flags behind every test of C16. -/
theorem c16a_ok_ladder (m u : Bool) {f s f' s' : Bool} (hf : f = true → f' = true)
    (hs : s = true → s' = true ∨ f' = true) :
    c16a_ok (ladder m u f s) (ladder m u f' s') = true := by
  revert m u f s f' s'
  decide

/-- What C16 asks of a call `c'` at least as strict as `c`; nothing where `c` raises
    (`c16a_location_needs_len`). -/
def NoBetter (periodOf : Period → Int → Int) (c c' : TestCall) : Prop :=
  c'.size = c.size ∧
    FlagRel (fun i a b => i < c.size → c16a_ok a b = true) (c.flagAt periodOf) (c'.flagAt periodOf)

theorem NoBetter.holds {periodOf : Period → Int → Int} {c c' : TestCall} (h : NoBetter periodOf c c')
    {g : Nat → Flag} (hg : c.flagAt periodOf = .ok g) :
    C16.holds (c.run periodOf).toObs (c'.run periodOf).toObs = true := by
  obtain ⟨g', hg', hgg⟩ := h.2 g hg
  rw [TestCall.run_eq, TestCall.run_eq, hg, hg', h.1]
  simp only [map_ok, C16.holds, Res.toObs, List.map_map]
  exact pointwise_map C16.holdsList C16.holdsAt rfl (fun _ _ _ _ => rfl) _ _ _
    fun i hi => c16a_ok_holdsAt _ _ (hgg i (List.mem_range.1 hi))

end IoosQc
