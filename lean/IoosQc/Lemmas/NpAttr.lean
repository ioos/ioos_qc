import Lean.Meta.Tactic.Simp.RegisterCommand

/-- equations that compute an array operation on tabulations: the numpy primitives (`Lemmas/NpTab.lean`), a program's own steps
    where they are defined -/
register_simp_attr np

/-- `pure`, `throw` and `>>=` of `Except`, for stepping through a translated `do` block -/
register_simp_attr exc
