/-
  The running minimum / maximum `l.foldl rmin a`, `l.foldl rmax a` (the model's `lmin`, `lmax`) is
  an element of `a :: l` and a bound of all of them, hence determined by the set of values
  (`lmin_congr`); membership and bound each come from one statement about a fold that keeps one
  of its two arguments at every step (also the worst flag of C04).  Then `rabs`, `rmin`, `rmax`,
  `rsum`, `spread` under an offset and a change of sign.
-/
import IoosQc.Model.Tests

namespace IoosQc

theorem foldl_sel_mem {α : Type} (op : α → α → α) (hop : ∀ a b, op a b = a ∨ op a b = b)
    (l : List α) : ∀ a, l.foldl op a ∈ a :: l := by
  induction l with
  | nil => exact fun a => .head _
  | cons b l ih =>
    intro a
    rcases List.mem_cons.1 (ih (op a b)) with h | h
    · rw [List.foldl_cons, h]
      rcases hop a b with e | e <;> simp [e]
    · exact .tail _ (.tail _ h)

/-- `le` is any preorder below which `op` puts its result: `≤` for `rmin`, `≥` for `rmax`. -/
theorem foldl_sel_le {α : Type} (le : α → α → Prop) (refl : ∀ a, le a a)
    (trans : ∀ a b c, le a b → le b c → le a c) (op : α → α → α)
    (hl : ∀ a b, le (op a b) a) (hr : ∀ a b, le (op a b) b) (l : List α) :
    ∀ a, ∀ x ∈ a :: l, le (l.foldl op a) x := by
  induction l with
  | nil =>
    intro a x hx
    rw [List.mem_singleton.1 hx]
    exact refl a
  | cons b l ih =>
    intro a x hx
    have h0 := ih (op a b) _ (.head _)
    rcases List.mem_cons.1 hx with rfl | hx
    · exact trans _ _ _ h0 (hl x b)
    · rcases List.mem_cons.1 hx with rfl | hx
      · exact trans _ _ _ h0 (hr a x)
      · exact ih (op a b) x (.tail _ hx)

theorem rabs_div_pos (x d : Rat) (hd : 0 < d) : rabs (x / d) = rabs x / d := by
  have h1 : x / d < 0 ↔ x < 0 := by simpa using Rat.div_lt_iff (c := 0) hd
  unfold rabs
  by_cases hx : x < 0
  · rw [if_pos hx, if_pos (h1.2 hx), Rat.div_def, Rat.div_def, Rat.neg_mul]
  · rw [if_neg hx, if_neg (mt h1.1 hx)]

theorem rabs_nonneg (x : Rat) : 0 ≤ rabs x := by
  unfold rabs; grind

theorem rabs_of_nonneg (x : Rat) (h : 0 ≤ x) : rabs x = x := by
  unfold rabs; grind

theorem rabs_neg (x : Rat) : rabs (-x) = rabs x := by unfold rabs; grind

theorem rmin_le_left (a b : Rat) : rmin a b ≤ a := by
  unfold rmin
  split
  · exact Rat.le_refl
  · exact Rat.le_of_lt (Rat.not_le.1 ‹_›)

theorem rmin_le_right (a b : Rat) : rmin a b ≤ b := by
  unfold rmin
  split
  · assumption
  · exact Rat.le_refl

theorem le_rmax_left (a b : Rat) : a ≤ rmax a b := by
  unfold rmax
  split
  · assumption
  · exact Rat.le_refl

theorem le_rmax_right (a b : Rat) : b ≤ rmax a b := by
  unfold rmax
  split
  · exact Rat.le_refl
  · exact Rat.le_of_lt (Rat.not_le.1 ‹_›)

/-- Swapping the two sides of a comparison swaps the branches; on a tie (`h`) they agree. -/
theorem ite_le_swap {α : Type} (a b : Rat) (x y : α) (h : a = b → x = y) :
    (if b ≤ a then x else y) = if a ≤ b then y else x := by
  by_cases h1 : a ≤ b <;> by_cases h2 : b ≤ a
  · rw [if_pos h1, if_pos h2, h (Rat.le_antisymm h1 h2)]
  · rw [if_pos h1, if_neg h2]
  · rw [if_neg h1, if_pos h2]
  · exact absurd (Rat.le_total.resolve_left h1) h2

theorem rmin_comm (a b : Rat) : rmin a b = rmin b a :=
  (ite_le_swap a b b a fun h => h.symm).symm

theorem rmax_add (a b k : Rat) : rmax (a + k) (b + k) = rmax a b + k := by
  unfold rmax
  rw [apply_ite (· + k)]
  simp only [Rat.add_le_add_right]

theorem rmin_add (a b k : Rat) : rmin (a + k) (b + k) = rmin a b + k := by
  unfold rmin
  rw [apply_ite (· + k)]
  simp only [Rat.add_le_add_right]

theorem rmax_neg (a b : Rat) : rmax (-a) (-b) = -(rmin a b) := by
  unfold rmax rmin
  rw [apply_ite Neg.neg]
  simp only [Rat.neg_le_neg_iff]
  exact ite_le_swap a b (-b) (-a) fun h => by rw [h]

theorem rmin_neg (a b : Rat) : rmin (-a) (-b) = -(rmax a b) := by
  unfold rmax rmin
  rw [apply_ite Neg.neg]
  simp only [Rat.neg_le_neg_iff]
  exact ite_le_swap a b (-a) (-b) fun h => by rw [h]

theorem foldl_rmin_mem (l : List Rat) : ∀ a, l.foldl rmin a ∈ a :: l :=
  foldl_sel_mem rmin (fun a b => by unfold rmin; split <;> simp) l

theorem foldl_rmax_mem (l : List Rat) : ∀ a, l.foldl rmax a ∈ a :: l :=
  foldl_sel_mem rmax (fun a b => by unfold rmax; split <;> simp) l

theorem foldl_rmin_le (l : List Rat) : ∀ a, ∀ x ∈ a :: l, l.foldl rmin a ≤ x :=
  foldl_sel_le (· ≤ ·) (fun _ => Rat.le_refl) (fun _ _ _ => Rat.le_trans) rmin
    rmin_le_left rmin_le_right l

theorem le_foldl_rmax (l : List Rat) : ∀ a, ∀ x ∈ a :: l, x ≤ l.foldl rmax a :=
  foldl_sel_le (fun m x => x ≤ m) (fun _ => Rat.le_refl) (fun _ _ _ h₁ h₂ => Rat.le_trans h₂ h₁) rmax
    le_rmax_left le_rmax_right l

theorem lmin_eq_some_iff (xs : List Rat) (m : Rat) :
    lmin xs = some m ↔ m ∈ xs ∧ ∀ x ∈ xs, m ≤ x := by
  cases xs with
  | nil => simp [lmin]
  | cons v vs =>
    simp only [lmin, Option.some.injEq]
    constructor
    · intro h; subst h
      exact ⟨foldl_rmin_mem vs v, foldl_rmin_le vs v⟩
    · intro ⟨hm, hle⟩
      exact Rat.le_antisymm (foldl_rmin_le vs v m hm) (hle _ (foldl_rmin_mem vs v))

theorem lmax_eq_some_iff (xs : List Rat) (m : Rat) :
    lmax xs = some m ↔ m ∈ xs ∧ ∀ x ∈ xs, x ≤ m := by
  cases xs with
  | nil => simp [lmax]
  | cons v vs =>
    simp only [lmax, Option.some.injEq]
    constructor
    · intro h; subst h
      exact ⟨foldl_rmax_mem vs v, le_foldl_rmax vs v⟩
    · intro ⟨hm, hle⟩
      exact Rat.le_antisymm (hle _ (foldl_rmax_mem vs v)) (le_foldl_rmax vs v m hm)

theorem lmin_congr (xs ys : List Rat) (h : ∀ x, x ∈ xs ↔ x ∈ ys) : lmin xs = lmin ys :=
  Option.ext fun m => by simp only [lmin_eq_some_iff, h]

theorem lmax_congr (xs ys : List Rat) (h : ∀ x, x ∈ xs ↔ x ∈ ys) : lmax xs = lmax ys :=
  Option.ext fun m => by simp only [lmax_eq_some_iff, h]

theorem spread_cons (v : Rat) (vs : List Rat) :
    spread (v :: vs) = some (vs.foldl rmax v - vs.foldl rmin v) := by
  have h1 := foldl_rmin_le vs v v (.head _)
  have h2 := le_foldl_rmax vs v v (.head _)
  simp only [spread, lmax, lmin]
  rw [rabs_of_nonneg _ (by grind)]

theorem spread_sub (p p' : List Rat) (hsub : ∀ x ∈ p', x ∈ p) (hne : p' ≠ []) (r : Rat)
    (h : spread p = some r) : ∃ r', spread p' = some r' ∧ r' ≤ r := by
  cases p' with
  | nil => exact absurd rfl hne
  | cons v' vs' =>
    cases p with
    | nil => exact absurd (hsub v' (by simp)) (by simp)
    | cons v vs =>
      rw [spread_cons] at h ⊢
      refine ⟨_, rfl, ?_⟩
      have hM := le_foldl_rmax vs v _ (hsub _ (foldl_rmax_mem vs' v'))
      have hm := foldl_rmin_le vs v _ (hsub _ (foldl_rmin_mem vs' v'))
      simp only [Option.some.injEq] at h
      grind

theorem rat_add_sub_add_right (b a k : Rat) : b + k - (a + k) = b - a := by grind

theorem rat_neg_sub_neg (b a : Rat) : -b - -a = -(b - a) := by grind

theorem spread_add (k : Rat) (l : List Rat) : spread (l.map (· + k)) = spread l := by
  cases l with
  | nil => rfl
  | cons v vs =>
    simp only [List.map_cons, spread, lmax, lmin,
      List.foldl_map_hom (g := (· + k)) (f := rmax) (rmax_add · · k),
      List.foldl_map_hom (g := (· + k)) (f := rmin) (rmin_add · · k), rat_add_sub_add_right]

theorem spread_neg (l : List Rat) : spread (l.map (fun v => -v)) = spread l := by
  cases l with
  | nil => rfl
  | cons v vs =>
    simp only [List.map_cons, spread, lmax, lmin,
      List.foldl_map_hom (g := fun v => -v) (f := rmin) rmax_neg,
      List.foldl_map_hom (g := fun v => -v) (f := rmax) rmin_neg, rat_neg_sub_neg, Rat.neg_sub]

theorem rsum_cons (x : Rat) (xs : List Rat) : rsum (x :: xs) = x + rsum xs := by
  unfold rsum
  rw [List.foldl_cons, Rat.add_comm, List.foldl_assoc]

theorem rsum_append (a b : List Rat) : rsum (a ++ b) = rsum a + rsum b := by
  induction a with
  | nil => exact (Rat.zero_add _).symm
  | cons x xs ih => simp only [List.cons_append, rsum_cons, ih]; grind

theorem rsum_map_add (k : Rat) (l : List Rat) :
    rsum (l.map (· + k)) = rsum l + (l.length : Rat) * k := by
  induction l with
  | nil => simp [rsum, Rat.zero_mul, Rat.add_zero]
  | cons x xs ih =>
    rw [List.map_cons, rsum_cons, rsum_cons, ih, List.length_cons, Rat.natCast_add, Rat.natCast_ofNat]
    grind

theorem rsum_map_neg (l : List Rat) : rsum (l.map (fun v => -v)) = -rsum l := by
  induction l with
  | nil => rfl
  | cons x xs ih => rw [List.map_cons, rsum_cons, rsum_cons, ih, Rat.neg_add]

end IoosQc
