/-
  IoosQc.Model.NpStore — `PandasStore.save` and `column_from_collected_result` in the form
  `harness/translate.py` regenerates from /repo's source (see `Model/NpSrc.lean` for the
  conventions; a loop whose body only re-binds the frame is rendered as a fold with one `let` per
  Python statement, a `continue` as "return the frame as it is"): the loop over the collected results
  with its two `continue`s, columns added to the frame only while absent.  `Theorems/NpSrcGlue.lean` proves it equal to `storeSave` (Model/Store),
  the model C19's theorems are about.
-/
import IoosQc.Model.Store

namespace IoosQc.NpSrc

/-- `self.axes`: the column names of the four axes (`t`, `z`, `y`, `x`). -/
structure Axes where
  t : String
  z : String
  y : String
  x : String
  deriving Repr, DecidableEq, Inhabited

/-- `df[name] = values` for a name not yet in the frame: a new last column. -/
def setCol (df : Frame) (name : String) (values : Nat) : Frame := df ++ [(name, values)]

/-- `f"{x}." if x else ""` -/
def dotted (x : String) : String := if x = "" then "" else x ++ "."

-- BEGIN GENERATED (harness/translate.py)
def column_from_collected_result (cr : StoreRes) : String :=
  let stream_label := dotted cr.stream
  let package_label := dotted cr.package
  let test_label := cr.test
  String.ofList (cfSafeName (stream_label ++ package_label ++ test_label).toList)

def save (collected_results : List StoreRes) (axes : Axes) (write_data : Bool) (write_axes : Bool) (include_ : Option (List String)) (exclude_ : Option (List String)) : Frame :=
  collected_results.foldl (fun df cr =>
    let df := match cr.tinp with
      | some tinp => if write_axes = true && !(df.has axes.t) then setCol df axes.t tinp else df
      | none => df
    let df := match cr.zinp with
      | some zinp => if write_axes = true && !(df.has axes.z) then setCol df axes.z zinp else df
      | none => df
    let df := match cr.lon with
      | some lon => if write_axes = true && !(df.has axes.x) then setCol df axes.x lon else df
      | none => df
    let df := match cr.lat with
      | some lat => if write_axes = true && !(df.has axes.y) then setCol df axes.y lat else df
      | none => df
    if (match include_ with
        | some include_ => !(include_.contains cr.fn) && !(include_.contains cr.stream) && !(include_.contains cr.test)
        | none => false) then df       -- continue
    else
    if (match exclude_ with
        | some exclude_ => exclude_.contains cr.fn || exclude_.contains cr.stream || exclude_.contains cr.test
        | none => false) then df       -- continue
    else
    let df := if write_data && !(df.has cr.stream) && cr.stream != "" then setCol df cr.stream cr.data else df
    let column_name := column_from_collected_result cr
    let df := if !(df.has column_name) then setCol df column_name cr.results else df
    df) []
-- END GENERATED

end IoosQc.NpSrc
