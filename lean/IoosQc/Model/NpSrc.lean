/-
  IoosQc.Model.NpSrc — the array-level transcriptions of the eleven QC tests in the exact form
  `harness/translate.py` produces from /repo's source: one Lean `do` block per Python function,
  one line per Python statement, mutable variables as `let mut`, `if x is not None` as
  `if let some x := x`, `raise ValueError` as `throw .value`, numpy expressions as the primitives
  of `Model/Np.lean`.

  THIS FILE IS THE TRANSLATOR'S OUTPUT for the pinned tree, committed so that theorems can be
  stated about it (`Theorems/NpSrcTests.lean`: each function below equals the pointwise model of
  `Model/Tests.lean`).  On every run the translator regenerates the same definitions from
  the CURRENT source into a scratch file, and the kernel checks that they are the definitions
  below (`rfl`); the theorems then speak about what the code says now.

  Statements the translator drops, because they do nothing on the logical domain (1-D series,
  carriers already normalised): `original_shape = x.shape`, `x = x.flatten()`,
  `.reshape(original_shape)`, `tinp = mapdates(tinp).flatten()` (C15's business), dtype
  arguments, the `warnings` / `np.errstate` context managers, `msg = …`, `bboxnt = namedtuple(…)`; `if bbox is not None:` is
  inlined (an explicit `bbox=None` is outside the model's domain); `great_circle_distance(lat, lon)` is the model input `hops`.
-/
import IoosQc.Model.Np

namespace IoosQc.NpSrc
open IoosQc.Np

-- BEGIN GENERATED (harness/translate.py)
def gross_range_test (inp : List V) (fail_span : SeqArg) (suspect_span : Option SeqArg) : Res := do
  fixedLength fail_span 2
  let sspan ← sortedSpan fail_span
  let inp := ofInput inp
  let mut flag_arr := ones inp.length
  flag_arr := setWhere flag_arr (maskOf inp) .missing
  if let some suspect_span := suspect_span then
    fixedLength suspect_span 2
    let uspan ← sortedSpan suspect_span
    if uspan.1 < sspan.1 || uspan.2 > sspan.2 then
      throw .value
    flag_arr := setWhereB flag_arr (bor (ltS inp uspan.1) (gtS inp uspan.2)) .suspect
  flag_arr := setWhereB flag_arr (bor (ltS inp sspan.1) (gtS inp sspan.2)) .fail
  return flag_arr

def spike_test (inp : List V) (suspect_threshold : Option Rat) (fail_threshold : Option Rat) (method : String) : Res := do
  let inp := ofInput inp
  let mut ref : MArr := []
  let mut diff : MArr := []
  if method = "average" then
    ref := zeros inp.length
    ref := setInner ref (maDivS (maBin Fl.add (init2 inp) (tail2 inp)) 2)
    ref := maskedInvalid ref
    diff := uf1 Fl.abs (maBin Fl.sub inp ref)
  else if method = "differential" then
    ref := maDiff inp
    diff := zeros inp.length
    diff := setInner diff (uf2 Fl.min (uf1 Fl.abs (init1 ref)) (uf1 Fl.abs (tail1 ref)))
    diff := setInner diff (setZeroWhereB (tail1 (init1 diff)) (geS (maBin Fl.mul (init1 ref) (tail1 ref)) 0))
  else
    throw .value
  let mut flag_arr := ones inp.length
  if let some suspect_threshold := suspect_threshold then
    flag_arr := setWhereB flag_arr (gtS diff suspect_threshold) .suspect
  if let some fail_threshold := fail_threshold then
    flag_arr := setWhereB flag_arr (gtS diff fail_threshold) .fail
  flag_arr := setFirst flag_arr .unknown
  flag_arr := setLast flag_arr .unknown
  flag_arr := setWhere flag_arr (maskOf diff) .missing
  return flag_arr

def rate_of_change_test (inp : List V) (tinp : List Int) (threshold : Rat) : Res := do
  let inp := ofInput inp
  let mut flag_arr := ones inp.length
  let mut roc := zeros inp.length
  if inp.length != tinp.length then
    throw .value
  roc := setTail roc (uf1 Fl.abs (maDivArr (maDiff inp) (dtSeconds tinp)))
  flag_arr := setWhereB flag_arr (gtS roc threshold) .suspect
  flag_arr := setWhere flag_arr (maskOf inp) .missing
  return flag_arr

def location_test (lon : List V) (lat : List V) (bbox : SeqArg) (range_max : Option Rat) (hops : List V) : Res := do
  fixedLength bbox 4
  let bbox ← boxOf bbox
  let lat := ofInput lat
  let lon := ofInput lon
  if lon.length != lat.length then
    throw .value
  let mut flag_arr := ones lon.length
  let mut mloc := band (maskOf lon) (maskOf lat)
  flag_arr := setWhere flag_arr mloc .missing
  let mut mismatch := bxor (maskOf lon) (maskOf lat)
  flag_arr := setWhere flag_arr mismatch .fail
  if let some range_max := range_max then
    if lon.length > 1 then
      let mut d := greatCircle hops lon.length
      flag_arr := setWhereB flag_arr (gtS d range_max) .suspect
  flag_arr := setWhereB flag_arr (bor (bor (bor (ltS lon bbox.minx) (ltS lat bbox.miny)) (gtS lon bbox.maxx)) (gtS lat bbox.maxy)) .fail
  return flag_arr

def density_inversion_test (inp : List V) (zinp : List V) (suspect_threshold : Option Rat) (fail_threshold : Option Rat) : Res := do
  let inp := ofInput inp
  let zinp := ofInput zinp
  if inp.length != zinp.length then
    throw .value
  let mut flag_arr := ones inp.length
  if inp.length == 0 then
    return []
  if inp.length < 2 then
    flag_arr ← setAt0 flag_arr .unknown
    return flag_arr
  let mut delta := maBin Fl.mul (uf1 Fl.sign (maDiff zinp)) (maDiff inp)
  if let some suspect_threshold := suspect_threshold then
    let mut is_suspect := ltS delta suspect_threshold
    if anyB is_suspect then
      flag_arr := setInit1 flag_arr (setWhereB (init1 flag_arr) (eqTrue is_suspect) .suspect)
      flag_arr := setTail flag_arr (setWhereB (tail1 flag_arr) (eqTrue is_suspect) .suspect)
  if let some fail_threshold := fail_threshold then
    let mut is_fail := ltS delta fail_threshold
    if anyB is_fail then
      flag_arr := setInit1 flag_arr (setWhereB (init1 flag_arr) (eqTrue is_fail) .fail)
      flag_arr := setTail flag_arr (setWhereB (tail1 flag_arr) (eqTrue is_fail) .fail)
  let mut is_missing := bor2 (maskOf inp) (maskOf zinp)
  flag_arr := setWhere flag_arr is_missing .missing
  flag_arr := setTail flag_arr (setWhere (tail1 flag_arr) (init1 is_missing) .missing)
  return flag_arr

def speed_test (lon : List V) (lat : List V) (tinp : List Int) (suspect_threshold : Rat) (fail_threshold : Rat) (hops : List V) : Res := do
  let lat := ofInput lat
  let lon := ofInput lon
  if lon.length != lat.length || lon.length != tinp.length then
    throw .value
  if lon.length == 0 then
    return []
  let mut flag_arr := ones lon.length
  let mut mloc := band (maskOf lon) (maskOf lat)
  flag_arr := setWhere flag_arr mloc .missing
  if lon.length < 2 then
    flag_arr ← setAt0 flag_arr .unknown
    return flag_arr
  let mut dist := greatCircle hops lon.length
  let mut speed := zeros tinp.length
  speed := setTail speed (uf1 Fl.abs (maDivArr (tail1 dist) (dtSeconds tinp)))
  flag_arr := setWhereB flag_arr (gtS speed suspect_threshold) .suspect
  flag_arr := setWhereB flag_arr (gtS speed fail_threshold) .fail
  flag_arr ← setAt0 flag_arr .unknown
  flag_arr := setWhere flag_arr (maskOf dist) .missing
  return flag_arr

def pressure_increasing_test (inp : List V) : Res := do
  let inp := ofInputFilled inp
  let mut delta := npDiff inp
  let mut flags := ones inp.length
  let mut sign := Fl.sign (npMean delta)
  if sign.ltS 0 then
    delta := npMulS sign delta
  let mut flag_idx := (npWhere (npLeS delta 0)).map (· + 1)
  flags := setIdx flags flag_idx .suspect
  return flags

def valid_range_test (inp : List V) (valid_span : V × V) (start_inclusive : Bool) (end_inclusive : Bool) (junk : List Fl) : Res := do
  let inp := ofInputJunk inp junk
  let mut flag_arr := ones inp.length
  if let some valid_span_0 := valid_span.1 then
    if start_inclusive = true then
      flag_arr := setWhereB flag_arr (ltS inp valid_span_0) .fail
    else
      flag_arr := setWhereB flag_arr (leS inp valid_span_0) .fail
  if let some valid_span_1 := valid_span.2 then
    if end_inclusive = true then
      flag_arr := setWhereB flag_arr (gtS inp valid_span_1) .fail
    else
      flag_arr := setWhereB flag_arr (geS inp valid_span_1) .fail
  flag_arr := setWhere flag_arr (maskOf inp) .missing
  return flag_arr

def flat_line_test (inp : List V) (tinp : List Int) (suspect_threshold : Rat) (fail_threshold : Rat) (tolerance : Rat) : Res := do
  let inp := ofInput inp
  let mut flag_arr := ones inp.length
  if inp.length < 3 then
    flag_arr := setWhere flag_arr (maskOf inp) .missing
    return flag_arr
  let mut time_interval := medianStep tinp
  let run_test := fun (flag_arr : List Flag) (test_threshold : Rat) (flag_value : Flag) =>
    let count := flatCount test_threshold time_interval
    let window := rollingWindow inp count
    let data_min := rowMin window
    let data_max := rowMax window
    let data_range := uf1 Fl.abs (maBin Fl.sub data_max data_min)
    let test_results := filledFalse (ltS data_range tolerance)
    let n_fill := min inp.length count
    let test_results := insertFalse n_fill test_results
    setWhere flag_arr test_results flag_value
  flag_arr := run_test flag_arr suspect_threshold .suspect
  flag_arr := run_test flag_arr fail_threshold .fail
  flag_arr := setWhere flag_arr (maskOf inp) .missing
  return flag_arr


def climatology_check (periodOf : Period → Int → Int) (members : List Member) (tinp : List Int) (inp : MArr) (zinp : MArr) : Res := do
  let mut flag_arr := emptyFlags inp.length
  flag_arr := fillFlags flag_arr .unknown
  flag_arr := setWhere flag_arr (maskOf inp) .missing
  for m in members do
    let mut tinp_copy : List Rat := []
    if let some period := m.period then
      if period = Period.week then
        tinp_copy := isoWeekOf periodOf tinp
      else
        tinp_copy := attrOf periodOf period tinp
    else
      tinp_copy := asInstants tinp
    if m.zspan.isSome && noneUnmasked zinp then
      continue
    let mut t_idx := band (geR tinp_copy m.tspan.1) (leR tinp_copy m.tspan.2)
    let mut z_idx : BArr := []
    if let some zspan := m.zspan then
      z_idx := andB (andB (plainB (notP (maskOf zinp))) (geS zinp zspan.1)) (leS zinp zspan.2)
    else
      z_idx := zipMask (notP (isnanData inp)) (maskOf inp)
    let mut values_idx := andB (plainB t_idx) z_idx
    let mut fail_idx : BArr := []
    if let some fspan := m.fspan then
      fail_idx := bor (ltS inp fspan.1) (gtS inp fspan.2)
    else
      fail_idx := plainB (List.replicate inp.length false)
    let mut suspect_idx := bor (ltS inp m.vspan.1) (gtS inp m.vspan.2)
    flag_arr := setWhereB flag_arr (andB values_idx fail_idx) .fail
    flag_arr := setWhereB flag_arr (andB (andB values_idx (notB fail_idx)) suspect_idx) .suspect
    flag_arr := setWhereB flag_arr (andB (andB values_idx (notB fail_idx)) (notB suspect_idx)) .good
  flag_arr := setWhere flag_arr (maskOf inp) .missing
  return flag_arr

def climatology_test (periodOf : Period → Int → Int) (config : List Member) (inp : List V) (tinp : List Int) (zinp : List V) : Res := do
  let inp := ofInput inp
  let zinp := ofInput zinp
  let mut flag_arr ← climatology_check periodOf config tinp inp zinp
  return flag_arr

def attenuated_signal_test (inp : List V) (tinp : List Int) (suspect_threshold : Rat) (fail_threshold : Rat) (test_period : Option Rat) (min_obs : Option Nat) (min_period : Option Rat) (check_type : String) : Res := do
  let mut window_func := WinFunc.std
  let mut check_func := CheckFunc.std
  if check_type = "std" then
    window_func := WinFunc.std
    check_func := CheckFunc.std
  else if check_type = "range" then
    window_func := WinFunc.ptp
    check_func := CheckFunc.ptp
  else
    throw .value
  let inp := ofInput inp
  let mut flag_arr := List.replicate inp.length Flag.unknown
  if inp.length == 0 then
    return flag_arr
  let mut check_val : List Stat := []
  if let some test_period := test_period then
    let mut min_periods : Option Nat := none
    if let some min_obs := min_obs then
      min_periods := some min_obs
    else if let some min_period := min_period then
      let mut time_interval := medianStep tinp
      min_periods := some (ratioFloor min_period time_interval)
    else
      min_periods := none
    check_val := rollingApply window_func min_periods inp tinp test_period
  else
    check_val := List.replicate flag_arr.length (wholeApply check_func inp)
  flag_arr := setWhere flag_arr (statGe check_val suspect_threshold) .good
  flag_arr := setWhere flag_arr (statLt check_val suspect_threshold) .suspect
  flag_arr := setWhere flag_arr (statIsNan check_val) .unknown
  flag_arr := setWhere flag_arr (statLt check_val fail_threshold) .fail
  flag_arr := setWhere flag_arr (maskOf inp) .missing
  return flag_arr
-- END GENERATED

end IoosQc.NpSrc
