/-
  IoosQc.Model.Streams — time-window subsetting of the stream front ends, at the level the
  properties talk about (`Call.run`'s keyword filtering is in `Model/CallRun.lean`).

  Rows are identified by their position; a window is a pair of optional bounds in whole
  seconds.  Each front end computes the boolean `subset_indexes` its own way:
    * NumpyStream / NetcdfStream:  `ones & (t >= starting) & (t < ending)`
    * PandasStream: a positional boolean mask, `&=` with each comparison the window defines, then
      `.loc[mask]` (after the repair of F-22; before it: two successive `.loc` filters, then
      membership of the surviving row LABELS in the frame's index — `pandasMaskOld`)
    * XarrayStream: a boolean mask on the time coordinate turned into integer positions
  The mechanisms are modelled separately and proved equal to the specification `specMask`.
-/
import IoosQc.Model.Basic

namespace IoosQc

structure Window where
  starting : Option Int
  ending : Option Int
  deriving Repr, DecidableEq, Inhabited

/-- The property's window: starting ≤ t < ending, an absent bound being open. -/
def inWindow (w : Window) (t : Int) : Bool :=
  (match w.starting with | some a => decide (a ≤ t) | none => true) &&
  (match w.ending with | some b => decide (t < b) | none => true)

def specMask (w : Window) (ts : List Int) : List Bool := ts.map (inWindow w)

/-- NumpyStream: start from all-True, `&` with each comparison that the window defines. -/
def numpyMask (w : Window) (ts : List Int) : List Bool :=
  let m0 := ts.map fun _ => true
  let m1 := match w.starting with
    | some a => List.zipWith (fun m t => m && decide (a ≤ t)) m0 ts
    | none => m0
  match w.ending with
  | some b => List.zipWith (fun m t => m && decide (t < b)) m1 ts
  | none => m1

/-- PandasStream (rows carry labels, which play no part): `in_window = ones; in_window &= (t >= starting);
    in_window &= (t < ending)` on the time column, by position. -/
def pandasMask (w : Window) (rows : List (Nat × Int)) : List Bool := numpyMask w (rows.map (·.2))

/-- PandasStream BEFORE the repair of F-22: filter rows twice, then mark the rows whose LABEL
    survived (`index.isin(subset.index)`) — wrong as soon as two rows share a label. -/
def pandasMaskOld (w : Window) (rows : List (Nat × Int)) : List Bool :=
  let s1 := match w.starting with
    | some a => rows.filter fun (r : Nat × Int) => decide (a ≤ r.2)
    | none => rows
  let s2 := match w.ending with
    | some b => s1.filter fun (r : Nat × Int) => decide (r.2 < b)
    | none => s1
  rows.map fun r => s2.any fun q => q.1 == r.1

/-- XarrayStream: positions of the selected time labels, scattered into an all-False mask. -/
def xarrayMask (w : Window) (ts : List Int) : List Bool :=
  let keep := (List.range ts.length).filter fun i => inWindow w (ts.getD i 0)
  (List.range ts.length).map fun i => keep.contains i


/-! ### Rows without a usable timestamp (NaT)

A row whose time is NaT satisfies no comparison: it belongs to every context that has no
window at all (nothing is subset then) and to no context that has a bound. -/

def inWindowOpt (w : Window) (t : Option Int) : Bool :=
  match t with
  | some t => inWindow w t
  | none => w.starting.isNone && w.ending.isNone

def specMaskOpt (w : Window) (ts : List (Option Int)) : List Bool := ts.map (inWindowOpt w)

/-- `t >= a` / `t < b` on a datetime column: False at NaT. -/
def geOpt (a : Int) (t : Option Int) : Bool := match t with | some t => decide (a ≤ t) | none => false
def ltOpt (b : Int) (t : Option Int) : Bool := match t with | some t => decide (t < b) | none => false

/-- The NumpyStream mechanism (`ones & (t >= starting) & (t < ending)`) on a column with NaT;
    PandasStream's two `.loc` filters and XarrayStream's `in_window &= …` compare alike. -/
def numpyMaskOpt (w : Window) (ts : List (Option Int)) : List Bool :=
  let m0 := ts.map fun _ => true
  let m1 := match w.starting with
    | some a => List.zipWith (fun m t => m && geOpt a t) m0 ts
    | none => m0
  match w.ending with
  | some b => List.zipWith (fun m t => m && ltOpt b t) m1 ts
  | none => m1

/-- Rows of a column selected by a mask (`arr[mask]`). -/
def selectRows {α : Type} (mask : List Bool) (xs : List α) : List α :=
  (List.zip mask xs).filterMap fun p => if p.1 then some p.2 else none

end IoosQc
