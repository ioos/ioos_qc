/-
  IoosQc.Model.NpConfig — the stream / package / test loops of `ContextConfig.__init__` in the form
  `harness/translate.py` regenerates from /repo's source (see `Model/NpSrc.lean` for the conventions):
  three nested `for` loops with two `continue`s — `try: import_module(…) except ImportError: continue`
  (`knownMod`) and `if not hasattr(testpackage, testname): continue` (`known`).  The parsing of region
  and window in the first half of `__init__` (shapely, the TimeWindow tuple) is not translated: the
  context's window and region are parameters.  `Theorems/NpSrcGlue.lean`: equal to `contextCalls`
  (Model/Config), the model of C07's layout theorems and `C07_unknown_skipped`.
-/
import IoosQc.Model.Config

namespace IoosQc.NpSrc

/-- `self.config["streams"].items()` (a context without streams is outside the well-formed configurations) -/
def streamsOf (config : J) : List (String × J) := ((config.get? "streams").getD (.obj [])).items

-- BEGIN GENERATED (harness/translate.py)
def ContextConfig_calls (knownMod : String → Bool) (known : String → String → Bool) (config : J) (window : J) (region : J) : List CallSpec := Id.run do
  let mut calls : List CallSpec := []
  for (stream_id, sc) in streamsOf config do
    for (package, modules) in sc.items do
      if !(knownMod package) then
        continue
      for (testname, kwargs) in modules.items do
        let kwargs := orEmpty kwargs
        if !(known package testname) then
          continue
        calls := calls ++ [⟨stream_id, package, testname, kwargs, window, region⟩]
  return calls
-- END GENERATED

end IoosQc.NpSrc
