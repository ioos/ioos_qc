/-
  IoosQc.Model.NpCall — `config.Call.run` in the form `harness/translate.py` regenerates from /repo's
  source (see `Model/NpSrc.lean` for the conventions; straight-line code: one `let` per statement,
  `try: … except Exception: <log>` as a match on the callee's outcome).  `valid_keywords` — the
  POSITIONAL_OR_KEYWORD parameter names `inspect.signature` reports — and the test function itself
  are parameters.  `Theorems/NpSrcGlue.lean`: equal to `callRun` (Model/CallRun), the model of C05's
  keyword theorems and of C18's "a call that raises yields nothing".
-/
import IoosQc.Model.CallRun

namespace IoosQc.NpSrc

-- BEGIN GENERATED (harness/translate.py)
def Call_run {β : Type} (self_kwargs : KwArgs) (passedkwargs : KwArgs) (valid_keywords : List String) (self_func : KwArgs → Except Err β) : List β :=
  let results : List β := []
  let testkwargs := passedkwargs
  let testkwargs := dictMerge self_kwargs testkwargs
  let testkwargs := testkwargs.filter fun kv => valid_keywords.contains kv.1
  match self_func testkwargs with
  | .ok r => results ++ [r]
  | .error _ => results
-- END GENERATED

end IoosQc.NpSrc
