/-
  IoosQc.Model.Basic — flags, values, errors and the `overrides` combinator.

  Mathlib-free and executable: this file is linked into the `driver` executable that the
  Python harness talks to.  Everything here is part of the *model* (a hand-written reading of
  /repo/ioos_qc), tied to the code by the correspondence run, see DESIGN.md §2.
-/
namespace IoosQc

/-- The five QARTOD flags (`ioos_qc.qartod.QartodFlags`). -/
inductive Flag where
  | good | unknown | suspect | fail | missing
  deriving DecidableEq, Repr, Inhabited

/-- Numeric code of a flag, as stored in the result arrays. -/
def Flag.code : Flag → Nat
  | .good => 1 | .unknown => 2 | .suspect => 3 | .fail => 4 | .missing => 9

def Flag.ofCode? : Int → Option Flag
  | 1 => some .good | 2 => some .unknown | 3 => some .suspect | 4 => some .fail
  | 9 => some .missing | _ => none

/-- Severity: GOOD < SUSPECT < FAIL; UNKNOWN / MISSING are outside the order. -/
def Flag.sev : Flag → Option Nat
  | .good => some 0 | .suspect => some 1 | .fail => some 2 | _ => none

/-- Aggregation precedence (C04): MISSING < UNKNOWN < GOOD < SUSPECT < FAIL. -/
def Flag.rank : Flag → Nat
  | .missing => 0 | .unknown => 1 | .good => 2 | .suspect => 3 | .fail => 4

/-- A (possibly missing) observation: `none` is NaN / None / a masked element. -/
abbrev V := Option Rat

/-- Python exception classes, collapsed. -/
inductive Err where
  | value | type | assertion | index | attribute | other
  deriving DecidableEq, Repr, Inhabited

def Err.name : Err → String
  | .value => "ValueError" | .type => "TypeError" | .assertion => "AssertionError"
  | .index => "IndexError" | .attribute => "AttributeError" | .other => "Exception"

abbrev Res := Except Err (List Flag)

/-- Replay of a sequence of numpy assignments `flag_arr[cond] = X` at one position:
    start from `init`, every rule whose condition holds overwrites; the last true rule wins. -/
def overrides (init : Flag) (rules : List (Bool × Flag)) : Flag :=
  rules.foldl (fun acc r => if r.1 then r.2 else acc) init

def rabs (x : Rat) : Rat := if x < 0 then -x else x

def rmin (a b : Rat) : Rat := if a ≤ b then a else b
def rmax (a b : Rat) : Rat := if a ≤ b then b else a

/-- sign as numpy's `np.sign` on a real. -/
def rsign (x : Rat) : Rat := if x < 0 then -1 else if 0 < x then 1 else 0

/-- Element `i` of a series, missing beyond the end. -/
def getV (xs : List V) (i : Nat) : V := xs.getD i none

/-- `a > b` with NaN semantics: false when `a` is missing. -/
def vgt (a : V) (b : Rat) : Bool := match a with | some x => decide (b < x) | none => false
/-- `a < b` with NaN semantics. -/
def vlt (a : V) (b : Rat) : Bool := match a with | some x => decide (x < b) | none => false
def vge (a : V) (b : Rat) : Bool := match a with | some x => decide (b ≤ x) | none => false
def vle (a : V) (b : Rat) : Bool := match a with | some x => decide (x ≤ b) | none => false

/-- `sorted(span)` for a 2-sequence. -/
def sort2 (a b : Rat) : Rat × Rat := if a ≤ b then (a, b) else (b, a)

/-- Arguments that Python checks with `isfixedlength(x, n)`: a list/tuple (`isSeq`) of numbers. -/
structure SeqArg where
  isSeq : Bool
  vals  : List Rat
  deriving Repr, DecidableEq, Inhabited

/-- `isfixedlength(lst, n)`: TypeError unless list/tuple, ValueError unless of length n. -/
def fixedLength (a : SeqArg) (n : Nat) : Except Err Unit :=
  if !a.isSeq then .error .type
  else if a.vals.length != n then .error .value
  else .ok ()

end IoosQc
