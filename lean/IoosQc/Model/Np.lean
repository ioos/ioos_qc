/-
  IoosQc.Model.Np — an ARRAY-LEVEL model of the numpy / numpy.ma operations the QC tests are
  written in, and array-level transcriptions of three tests (`gross_range_test`,
  `rate_of_change_test`, `spike_test`) that follow the Python bodies statement by statement.

  Why a second layer.  `Model/Tests.lean` reads every vectorised body POINTWISE and treats a
  missing value as one logical thing (`none`).  The code does not: a `numpy.ma.MaskedArray` is a
  pair (raw data, mask); arithmetic keeps raw data under the mask (for `a + b` the first
  operand's), comparisons are computed on the raw data, and `flag_arr[cond] = X` with a masked
  boolean `cond` uses `cond`'s RAW data.  A flag can therefore be assigned from a number "under
  the mask"; the code relies on a later `flag_arr[….mask] = MISSING` to repair that.  This file
  models those mechanics explicitly; `Theorems/NpRefine.lean` proves that the array-level
  transcriptions compute exactly what the pointwise models compute, for all inputs — so the
  pointwise reading is justified by proof, not by sampling.

  The primitives' agreement with the installed numpy is checked by the correspondence run
  (`kind = "np"` requests: the same operation on the same cells in numpy and here, data AND mask
  compared).  The transcriptions below are written by hand; those that `harness/translate.py`
  regenerates from /repo's current source, for all eleven tests, are in `Model/NpSrc.lean`.

  Cells: a float64 on the properties' input domain is a finite number or NaN.
-/
import IoosQc.Model.Tests

namespace IoosQc.Np

/-- A float64 value on the input domain. -/
inductive Fl where
  | num (q : Rat)
  | nan
  deriving DecidableEq, Repr, Inhabited

def Fl.isNan : Fl → Bool | .nan => true | .num _ => false

def Fl.lift2 (f : Rat → Rat → Rat) : Fl → Fl → Fl
  | .num a, .num b => .num (f a b)
  | _, _ => .nan

def Fl.add := Fl.lift2 (· + ·)
def Fl.sub := Fl.lift2 (· - ·)
def Fl.mul := Fl.lift2 (· * ·)
/-- `np.minimum`: NaN if either argument is. -/
def Fl.min := Fl.lift2 rmin
def Fl.abs : Fl → Fl | .num a => .num (rabs a) | .nan => .nan
/-- `np.sign`: NaN for NaN. -/
def Fl.sign : Fl → Fl | .num a => .num (rsign a) | .nan => .nan
/-- division by a non-zero scalar -/
def Fl.divS (x : Fl) (r : Rat) : Fl := match x with | .num a => .num (a / r) | .nan => .nan
/-- comparisons with a scalar / another cell: False when NaN is involved -/
def Fl.gtS (x : Fl) (r : Rat) : Bool := match x with | .num a => decide (r < a) | .nan => false
def Fl.ltS (x : Fl) (r : Rat) : Bool := match x with | .num a => decide (a < r) | .nan => false
def Fl.geS (x : Fl) (r : Rat) : Bool := match x with | .num a => decide (r ≤ a) | .nan => false

/-- One element of a float masked array: raw data and mask bit. -/
structure Cell where
  d : Fl
  m : Bool
  deriving DecidableEq, Repr, Inhabited

abbrev MArr := List Cell

/-- One element of a boolean masked array (the result of a comparison). -/
structure BCell where
  d : Bool
  m : Bool
  deriving DecidableEq, Repr, Inhabited

abbrev BArr := List BCell

/-- `np.ma.masked_invalid(np.ma.array(inp).astype(np.float64).filled(np.nan))` on a logical
    series: a missing value becomes a masked NaN. -/
def cellOf (v : V) : Cell := match v with | some q => ⟨.num q, false⟩ | none => ⟨.nan, true⟩

def ofInput (xs : List V) : MArr := xs.map cellOf

/-- numpy.ma binary arithmetic (`+ - *`): masks are united; under the mask the result keeps the
    FIRST operand's raw data. -/
def maBin (f : Fl → Fl → Fl) (a b : MArr) : MArr :=
  List.zipWith (fun x y => ⟨if x.m || y.m then x.d else f x.d y.d, x.m || y.m⟩) a b

/-- `ma / scalar` (non-zero scalar): a "domained" numpy.ma operation — besides the operand's
    mask, every non-finite result is masked; under the mask the operand's raw data is kept. -/
def divCell (x : Cell) (r : Rat) : Cell :=
  let m := x.m || (x.d.divS r).isNan
  ⟨if m then x.d else x.d.divS r, m⟩

def maDivS (a : MArr) (r : Rat) : MArr := a.map fun x => divCell x r

/-- A plain ufunc applied to masked arrays (`np.abs`, `np.minimum`): computed on the raw data
    everywhere, masks united. -/
def uf1 (f : Fl → Fl) (a : MArr) : MArr := a.map fun x => ⟨f x.d, x.m⟩
def uf2 (f : Fl → Fl → Fl) (a b : MArr) : MArr := List.zipWith (fun x y => ⟨f x.d y.d, x.m || y.m⟩) a b

/-- `np.ma.masked_invalid` of a masked array: NaN cells become masked as well. -/
def maskedInvalid (a : MArr) : MArr := a.map fun x => ⟨x.d, x.m || x.d.isNan⟩

/-- `np.ma.zeros(n)`. -/
def zeros (n : Nat) : MArr := List.replicate n ⟨.num 0, false⟩

/-- `a[1:]`, `a[:-1]`, `a[2:]`, `a[:-2]`, `a[1:-1]`. -/
def tail1 {α : Type} (a : List α) : List α := a.drop 1
def init1 {α : Type} (a : List α) : List α := a.take (a.length - 1)
def tail2 {α : Type} (a : List α) : List α := a.drop 2
def init2 {α : Type} (a : List α) : List α := a.take (a.length - 2)

/-- `dst[1:-1] = src` (for `dst.length ≥ 2`, `src.length = dst.length - 2`; otherwise numpy
    would raise — the tests guard / the sizes always fit). -/
def setInner {α : Type} (dst src : List α) : List α :=
  match dst with
  | [] => []
  | x :: rest => x :: (src ++ rest.drop src.length)

/-- `dst[1:] = src`. -/
def setTail {α : Type} (dst src : List α) : List α :=
  match dst with
  | [] => []
  | x :: rest => x :: (src ++ rest.drop src.length)

/-- `np.diff(a)` / `np.ma.diff(a)` of a masked array: `np.subtract(a[1:], a[:-1])` called as a
    ufunc — raw data everywhere (NaN as soon as one operand is NaN), masks united.  (Unlike the
    operator `a[1:] - a[:-1]`, which would keep the first operand's data under the mask.) -/
def maDiff (a : MArr) : MArr := uf2 Fl.sub (tail1 a) (init1 a)

/-- `ma / arr` for a plain array of non-zero numbers. -/
def maDivArr (a : MArr) (d : List Rat) : MArr := List.zipWith divCell a d

/-- comparisons of a masked array with a scalar: raw comparison, same mask -/
def gtS (a : MArr) (r : Rat) : BArr := a.map fun x => ⟨x.d.gtS r, x.m⟩
def ltS (a : MArr) (r : Rat) : BArr := a.map fun x => ⟨x.d.ltS r, x.m⟩
def geS (a : MArr) (r : Rat) : BArr := a.map fun x => ⟨x.d.geS r, x.m⟩

/-- `|` of two masked boolean arrays: `np.bitwise_or` as a plain ufunc — raw data everywhere,
    masks united. -/
def bor (a b : BArr) : BArr :=
  List.zipWith (fun x y => ⟨x.d || y.d, x.m || y.m⟩) a b

/-- the `.mask` of a masked array, as a plain boolean array -/
def maskOf (a : MArr) : List Bool := a.map (·.m)

/-- `flag_arr[cond] = x` with a MASKED boolean index: its raw data selects. -/
def setWhereB (fl : List Flag) (cond : BArr) (x : Flag) : List Flag :=
  List.zipWith (fun f c => if c.d then x else f) fl cond

/-- `flag_arr[cond] = x` with a plain boolean index. -/
def setWhere (fl : List Flag) (cond : List Bool) (x : Flag) : List Flag :=
  List.zipWith (fun f c => if c then x else f) fl cond

/-- `arr[cond] = 0` for a float masked array and a MASKED boolean index (numpy: the raw data of
    the index selects, only the data is written, the mask of `arr` stays as it is). -/
def setZeroWhereB (a : MArr) (cond : BArr) : MArr :=
  List.zipWith (fun x c => if c.d then ⟨.num 0, x.m⟩ else x) a cond

/-- `flag_arr[:1] = x`, `flag_arr[-1:] = x`. -/
def setFirst (fl : List Flag) (x : Flag) : List Flag :=
  match fl with | [] => [] | _ :: r => x :: r
def setLast (fl : List Flag) (x : Flag) : List Flag :=
  match fl with | [] => [] | _ => fl.take (fl.length - 1) ++ [x]

def ones (n : Nat) : List Flag := List.replicate n .good

/-- `span(*sorted(x))` for a 2-sequence argument (after `isfixedlength(x, 2)`). -/
def sortedSpan (a : SeqArg) : Except Err (Rat × Rat) :=
  match a.vals with
  | [x, y] => pure (sort2 x y)
  | _ => throw .value

/-- `assert isfixedlength(bbox, 4); bbox = BBOX(*bbox)`. -/
def boxOf (a : SeqArg) : Except Err Box :=
  match a.vals with
  | [x0, y0, x1, y1] => pure ⟨x0, y0, x1, y1⟩
  | _ => throw .value

/-- `a.mask & b.mask`, `a.mask != b.mask` on plain boolean arrays. -/
def band (a b : List Bool) : List Bool := List.zipWith (· && ·) a b
def bxor (a b : List Bool) : List Bool := List.zipWith (fun x y => x != y) a b

/-- The array `utils.great_circle_distance(lat, lon)` returns, given the geodesic hop distances
    (an input of the model, DESIGN §2.2): 0 at the first position, the distance from the previous
    position elsewhere — a MASKED NaN when one of the hop's four coordinates is missing (`np.vectorize` runs the
    solver on the raw data, NaN in gives NaN out, and the frompyfunc ufunc it wraps unites the masks
    of its four masked-array arguments; measured, and compared on every run by `props/np_prims.py`). -/
def hopCell (h : V) : Cell := match h with | some d => ⟨.num d, false⟩ | none => ⟨.nan, true⟩
def greatCircle (hops : List V) (n : Nat) : MArr := (List.range n).map fun i => hopCell (hopAt hops i)

/-- `c == True` for a masked boolean array: numpy.ma's `==` puts, under the mask, the comparison of
    the MASKS (masked vs. the unmasked scalar: False) — so the raw data under the mask never shows. -/
def eqTrue (c : BArr) : BArr := c.map fun x => ⟨!x.m && x.d, x.m⟩

/-- Python's builtin `any(c)` over a masked boolean array: iteration yields `np.ma.masked` (falsy)
    for the masked elements. -/
def anyB (c : BArr) : Bool := c.any fun x => !x.m && x.d

/-- `dst[:-1] = src` / the write-back of a view `dst[:-1][cond] = x` (`src.length = dst.length - 1`). -/
def setInit1 {α : Type} (dst src : List α) : List α := src ++ dst.drop src.length

/-- `flag_arr[0] = x`: IndexError on an empty array. -/
def setAt0 (fl : List Flag) (x : Flag) : Except Err (List Flag) :=
  match fl with | [] => throw .index | _ :: r => pure (x :: r)

/-- `a.mask | b.mask` on plain boolean arrays. -/
def bor2 (a b : List Bool) : List Bool := List.zipWith (· || ·) a b

/-- comparisons `<=`, `>=` with a scalar (raw comparison, same mask) -/
def Fl.leS (x : Fl) (r : Rat) : Bool := match x with | .num a => decide (a ≤ r) | .nan => false
def leS (a : MArr) (r : Rat) : BArr := a.map fun x => ⟨x.d.leS r, x.m⟩

/-- `np.ma.masked_invalid(np.ma.array(inp, dtype=dtype))` (no `.filled(np.nan)`): a missing value is a
    masked cell whose raw datum is WHATEVER the caller's array holds there (`junk`; NaN if it
    does not say). -/
def junkCell (x : V) (j : Fl) : Cell := match x with | some q => ⟨.num q, false⟩ | none => ⟨j, true⟩
def ofInputJunk (xs : List V) (junk : List Fl) : MArr :=
  (List.range xs.length).map fun i => junkCell (getV xs i) (junk.getD i .nan)

/-! ### plain (unmasked) float arrays -/

abbrev FArr := List Fl

/-- `np.ma.filled(np.ma.masked_invalid(np.ma.array(inp).astype(np.float64)), np.nan)`: a plain
    array with NaN at every missing value (whatever was under a mask is replaced). -/
def ofInputFilled (xs : List V) : FArr := xs.map fun v => match v with | some q => .num q | none => .nan

/-- `np.diff` of a plain array. -/
def npDiff (a : FArr) : FArr := List.zipWith Fl.sub (tail1 a) (init1 a)

def Fl.sumList : FArr → Fl
  | [] => .num 0
  | x :: xs => Fl.add x (Fl.sumList xs)

/-- `np.mean`: NaN for an empty array (numpy warns), NaN as soon as one element is. -/
def npMean (a : FArr) : Fl :=
  if a.length = 0 then .nan else (Fl.sumList a).divS (a.length : Nat)

/-- scalar * array -/
def npMulS (s : Fl) (a : FArr) : FArr := a.map (Fl.mul s)

/-- `a <= r` on a plain array -/
def npLeS (a : FArr) (r : Rat) : List Bool := a.map (·.leS r)

/-- `np.where(c)[0]`: the indices of the True entries, ascending. -/
def npWhere (c : List Bool) : List Nat := (List.range c.length).filter fun i => c.getD i false

/-- `flags[idx] = x` with an integer index array (all indices in range). -/
def setIdx (fl : List Flag) (idx : List Nat) (x : Flag) : List Flag := idx.foldl (fun f i => f.set i x) fl

/-! ### 2-D windows (`flat_line_test`) -/

/-- `rolling_window(a, w)` of `flat_line_test`:
    `np.ma.masked_invalid(np.lib.stride_tricks.as_strided(a, (n - w + 1, w + 1), …)[:-1, :])` — rows r = 0 … n-w-1, row r holding the
    w+1 RAW data values a[r], …, a[r+w] (the strided view is taken of the data buffer: the mask of `a` is dropped), NaN masked
    again.  No row when n ≤ w (the explicit `len(a) < window` branch returns a (0, w+1) array as well). -/
def rollingWindow (a : MArr) (w : Nat) : List MArr :=
  (List.range (a.length - w)).map fun r => maskedInvalid (((a.drop r).take (w + 1)).map fun c => ⟨c.d, false⟩)

/-- the unmasked numbers of a row -/
def rowVals (row : MArr) : List Rat :=
  row.filterMap fun c => if c.m then none else match c.d with | .num q => some q | .nan => none

def optCell (o : Option Rat) : Cell := match o with | some q => ⟨.num q, false⟩ | none => ⟨.nan, true⟩

/-- `np.min(window, 1)` / `np.max(window, 1)` of a 2-D masked array: per row over the unmasked values; a row without any is
    masked in the result (the datum under that mask is unspecified — modelled as NaN; it is never looked at: `np.ma.filled(…, False)`). -/
def rowMin (w : List MArr) : MArr := w.map fun row => optCell (lmin (rowVals row))
def rowMax (w : List MArr) : MArr := w.map fun row => optCell (lmax (rowVals row))

/-- `np.ma.filled(c, fill_value=False)` of a masked boolean array -/
def filledFalse (c : BArr) : List Bool := c.map fun x => !x.m && x.d

/-- `np.insert(c, 0, np.full((k,), False))` -/
def insertFalse (k : Nat) (c : List Bool) : List Bool := List.replicate k false ++ c

/-! ### masked / plain boolean algebra and calendar columns (`ClimatologyConfig.check`) -/

/-- a plain boolean array seen as a masked one (mask all False) -/
def plainB (c : List Bool) : BArr := c.map fun b => ⟨b, false⟩
/-- `a & b` (`np.bitwise_and` as a plain ufunc: raw data everywhere, masks united) -/
def andB (a b : BArr) : BArr := List.zipWith (fun x y => ⟨x.d && y.d, x.m || y.m⟩) a b
/-- `~a` (`np.invert`: raw data, same mask) -/
def notB (a : BArr) : BArr := a.map fun x => ⟨!x.d, x.m⟩
/-- `~mask` of a plain boolean array -/
def notP (c : List Bool) : List Bool := c.map (!·)
/-- `np.ma.array(data=d, mask=m)` of two plain boolean arrays -/
def zipMask (d m : List Bool) : BArr := List.zipWith (fun x y => ⟨x, y⟩) d m
/-- `np.isnan(a.data)` -/
def isnanData (a : MArr) : List Bool := a.map (·.d.isNan)
/-- `not zinp.count() or isnan(zinp.any())`: there is no unmasked element (`count()` is 0; `any()` of an all-masked or empty
    array is `np.ma.masked`) -/
def noneUnmasked (a : MArr) : Bool := (a.filter (!·.m)).length == 0 || a.all (·.m)
/-- `t >= lo`, `t <= hi` for a time / period column (plain arrays) -/
def geR (t : List Rat) (r : Rat) : List Bool := t.map fun x => decide (r ≤ x)
def leR (t : List Rat) (r : Rat) : List Bool := t.map fun x => decide (x ≤ r)
/-- the time column in the member's unit: the instants themselves (no period), `tinp.isocalendar().week` (week periods) or
    `getattr(tinp, period)` — the calendar is a parameter, as in the pointwise model (`Model/Calendar.periodOf` when run) -/
def asInstants (t : List Int) : List Rat := t.map fun x => ((x : Int) : Rat)
def isoWeekOf (periodOf : Period → Int → Int) (t : List Int) : List Rat := t.map fun x => ((periodOf .week x : Int) : Rat)
def attrOf (periodOf : Period → Int → Int) (p : Period) (t : List Int) : List Rat := t.map fun x => ((periodOf p x : Int) : Rat)
/-- `np.ma.empty(n, dtype="uint8")` (content unspecified until `.fill`) and `.fill(x)` -/
def emptyFlags (n : Nat) : List Flag := List.replicate n .good
def fillFlags (a : List Flag) (x : Flag) : List Flag := a.map fun _ => x

/-! ### spread statistics (`attenuated_signal_test`): pandas' time-based rolling window and the two whole-series functions -/

/-- the function applied to every window: `lambda x: x.std()` or `w.apply(np.ptp, raw=True[, engine="numba"])` -/
inductive WinFunc where | std | ptp
  deriving DecidableEq, Repr, Inhabited
/-- the function applied to the whole flattened series: `np.std` or `np.ptp` -/
inductive CheckFunc where | std | ptp
  deriving DecidableEq, Repr, Inhabited

def WinFunc.ct : WinFunc → CheckType | .std => .std | .ptp => .range
def CheckFunc.ct : CheckFunc → CheckType | .std => .std | .ptp => .range

/-- what `pd.Series(inp.flatten(), …)` / a numpy reduction sees of a masked float array: masked or NaN cells are missing -/
def seriesOf (a : MArr) : List V := a.map fun c => if c.m then none else match c.d with | .num q => some q | .nan => none

/-- `window_func(pd.Series(inp, index=tinp).rolling(f"{test_period}s", min_periods=min_periods))`: one statistic per row over the
    trailing window `(t - P, t]`; pandas' default `min_periods` for a time window is 1 and a window always needs one observation
    (`Model/Tests.windowStat` — the pandas behaviour itself is modelled there and tied by the correspondence run of C12). -/
def rollingApply (wf : WinFunc) (minPeriods : Option Nat) (inp : MArr) (tinp : List Int) (period : Rat) : List Stat :=
  (List.range inp.length).map fun i => windowStat wf.ct (max (minPeriods.getD 1) 1) (seriesOf inp) tinp period i

/-- `check_func(series)` for the whole masked series -/
def wholeApply (cf : CheckFunc) (inp : MArr) : Stat := wholeStat cf.ct (seriesOf inp)

/-- `(min_period / time_interval).astype(int)` -/
def ratioFloor (mp : Rat) (D : Int) : Nat := ((mp / ((D : Int) : Rat)).floor).toNat

/-- `check_val >= θ`, `check_val < θ`, `np.isnan(check_val)` on an array of statistics -/
def statGe (c : List Stat) (θ : Rat) : List Bool := c.map (·.ge θ)
def statLt (c : List Stat) (θ : Rat) : List Bool := c.map (·.lt θ)
def statIsNan (c : List Stat) : List Bool := c.map (·.isUndef)

/-! ## array-level transcriptions -/

/-- `gross_range_test` after the argument checks (spans sorted; `u ⊆ f` verified). -/
def grossBody (f : Rat × Rat) (u : Option (Rat × Rat)) (inp : MArr) : List Flag :=
  let flag_arr := ones inp.length
  let flag_arr := setWhere flag_arr (maskOf inp) .missing
  let flag_arr := match u with
    | some u => setWhereB flag_arr (bor (ltS inp u.1) (gtS inp u.2)) .suspect
    | none => flag_arr
  setWhereB flag_arr (bor (ltS inp f.1) (gtS inp f.2)) .fail

def grossArr (fail : SeqArg) (suspect : Option SeqArg) (inp : List V) : Res := do
  fixedLength fail 2
  match fail.vals with
  | [a, b] =>
    let f := sort2 a b
    match suspect with
    | none => pure (grossBody f none (ofInput inp))
    | some s =>
      fixedLength s 2
      match s.vals with
      | [c, d] =>
        let u := sort2 c d
        if u.1 < f.1 || f.2 < u.2 then throw .value
        else pure (grossBody f (some u) (ofInput inp))
      | _ => throw .value
  | _ => throw .value

/-- `np.diff(tinp).astype("timedelta64[s]").astype(float)` on whole-second axes. -/
def dtSeconds (ts : List Int) : List Rat := List.zipWith (fun b a => ((b - a : Int) : Rat)) (tail1 ts) (init1 ts)

/-- `np.diff(inp) / dt` — a masked array divided elementwise by a plain array of non-zero
    numbers — followed by `np.abs`. -/
def rocBody (thr : Rat) (inp : MArr) (ts : List Int) : List Flag :=
  let flag_arr := ones inp.length
  let roc := zeros inp.length
  let roc := setTail roc (uf1 Fl.abs (maDivArr (maDiff inp) (dtSeconds ts)))
  let flag_arr := setWhereB flag_arr (gtS roc thr) .suspect
  setWhere flag_arr (maskOf inp) .missing

def rocArr (inp : List V) (ts : List Int) (thr : Rat) : Res :=
  if inp.length != ts.length then throw .value
  else pure (rocBody thr (ofInput inp) ts)

/-- `spike_test`, method "average". -/
def spikeDiffAverage (inp : MArr) : MArr :=
  let ref := zeros inp.length
  let ref := setInner ref (maDivS (maBin Fl.add (init2 inp) (tail2 inp)) 2)
  let ref := maskedInvalid ref
  uf1 Fl.abs (maBin Fl.sub inp ref)

/-- `spike_test`, method "differential". -/
def spikeDiffDifferential (inp : MArr) : MArr :=
  let ref := maDiff inp
  let diff := zeros inp.length
  let inner := uf2 Fl.min (uf1 Fl.abs (init1 ref)) (uf1 Fl.abs (tail1 ref))
  let diff := setInner diff inner
  -- diff[1:-1][ref[:-1] * ref[1:] >= 0] = 0   (a write through a view)
  let cond := geS (maBin Fl.mul (init1 ref) (tail1 ref)) 0
  setInner diff (setZeroWhereB (tail1 (init1 diff)) cond)

/-- `if threshold is not None: flag_arr[diff > threshold] = x`. -/
def applyThr (o : Option Rat) (fl : List Flag) (diff : MArr) (x : Flag) : List Flag :=
  match o with
  | some s => setWhereB fl (gtS diff s) x
  | none => fl

def spikeFlags (sus fail : Option Rat) (diff : MArr) : List Flag :=
  let flag_arr := ones diff.length
  let flag_arr := applyThr sus flag_arr diff .suspect
  let flag_arr := applyThr fail flag_arr diff .fail
  let flag_arr := setFirst flag_arr .unknown
  let flag_arr := setLast flag_arr .unknown
  setWhere flag_arr (maskOf diff) .missing

def spikeArr (method : String) (sus fail : Option Rat) (inp : List V) : Res :=
  if method = "average" then pure (spikeFlags sus fail (spikeDiffAverage (ofInput inp)))
  else if method = "differential" then pure (spikeFlags sus fail (spikeDiffDifferential (ofInput inp)))
  else throw .value

end IoosQc.Np
