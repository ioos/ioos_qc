/-
  IoosQc.Model.FxParse — the GRAMMAR of `config_creator.fx_parser` (pyparsing, derived from the
  classic `fourFn.py`):

      expr   := term   (('+'|'-') term)*            -- left associative (ZeroOrMore loop)
      term   := factor (('*'|'/') factor)*          -- left associative
      factor := atom                                 -- ('^' is outside the property's grammar)
      atom   := ('+'|'-')* ( number | ident | '(' expr ')' )   -- only '-' pushes "unary -"
      number := [0-9]+ ('.' [0-9]*)? ([eE] [+-]? [0-9]+)?
      ident  := min | max | mean | std

  `IoosQc.Model.Fx` models what the parse actions PUSH (`Expr.compile`) and how the stack is
  evaluated; this file models which TREE the grammar builds from a token string: precedence,
  left associativity and unary minus.

  All parser functions are total by a `fuel` argument that decreases at every call (mutual
  structural recursion, so the kernel can evaluate them).  For a successful parse of `n` tokens
  `4 * n + 4` fuel suffices (proved in `Theorems/C20Parse.lean`); `parseAll` supplies
  `5 * n + 5`.

  Mathlib/Batteries-free: linked into the `driver` executable.
-/
import IoosQc.Model.Fx

namespace IoosQc

/-- Lexical tokens of the limit-expression grammar. -/
inductive PTok where
  | num (q : Rat)
  | stat (s : StatName)
  | plus | minus | times | slash | lparen | rparen
  deriving DecidableEq, Repr

/-- `addop`: the operators of the `expr` loop. -/
def PTok.addOp? : PTok → Option BinOp
  | .plus => some .add
  | .minus => some .sub
  | _ => none

/-- `multop`: the operators of the `term` loop. -/
def PTok.mulOp? : PTok → Option BinOp
  | .times => some .mul
  | .slash => some .div
  | _ => none

/-! ### Recursive-descent parser -/

mutual

/-- `atom := ('+'|'-')* ( number | ident | '(' expr ')' )`.  Each leading `-` wraps the operand
    in one `neg` (pyparsing pushes one `"unary -"` per minus sign); a leading `+` is accepted
    and ignored. -/
def parseAtom : Nat → List PTok → Option (Expr × List PTok)
  | 0, _ => none
  | f + 1, ts =>
    match ts with
    | .num q :: r => some (.num q, r)
    | .stat s :: r => some (.stat s, r)
    | .plus :: r => parseAtom f r
    | .minus :: r =>
      (match parseAtom f r with
       | some (e, r') => some (.neg e, r')
       | none => none)
    | .lparen :: r =>
      (match parseExpr f r with
       | some (e, .rparen :: r') => some (e, r')
       | _ => none)
    | _ => none

/-- `term := atom (multop atom)*`. -/
def parseTerm : Nat → List PTok → Option (Expr × List PTok)
  | 0, _ => none
  | f + 1, ts =>
    match parseAtom f ts with
    | some (a, r) => termLoop f a r
    | none => none

/-- The `(multop atom)*` loop with the tree built so far (left associative).  When the operand
    after an operator does not parse, the loop stops BEFORE the operator (ZeroOrMore
    backtracks). -/
def termLoop : Nat → Expr → List PTok → Option (Expr × List PTok)
  | 0, _, _ => none
  | f + 1, acc, ts =>
    match ts with
    | [] => some (acc, [])
    | t :: r =>
      (match t.mulOp? with
       | none => some (acc, ts)
       | some op =>
         (match parseAtom f r with
          | some (b, r') => termLoop f (.bin op acc b) r'
          | none => some (acc, ts)))

/-- `expr := term (addop term)*`. -/
def parseExpr : Nat → List PTok → Option (Expr × List PTok)
  | 0, _ => none
  | f + 1, ts =>
    match parseTerm f ts with
    | some (a, r) => exprLoop f a r
    | none => none

/-- The `(addop term)*` loop (left associative, backtracking like `termLoop`). -/
def exprLoop : Nat → Expr → List PTok → Option (Expr × List PTok)
  | 0, _, _ => none
  | f + 1, acc, ts =>
    match ts with
    | [] => some (acc, [])
    | t :: r =>
      (match t.addOp? with
       | none => some (acc, ts)
       | some op =>
         (match parseTerm f r with
          | some (b, r') => exprLoop f (.bin op acc b) r'
          | none => some (acc, ts)))

end

/-- Fuel supplied by `parseAll` (any value `≥ 4 * n + 4` is exact). -/
def parseFuel (ts : List PTok) : Nat := 5 * ts.length + 5

/-- `expr.parseString(s, parseAll=True)`: succeeds only if every token is consumed. -/
def parseAll (ts : List PTok) : Option Expr :=
  match parseExpr (parseFuel ts) ts with
  | some (e, []) => some e
  | _ => none

/-! ### Lexer -/

/-- Longest prefix of decimal digits, and what follows. -/
def spanDigits : List Char → List Char × List Char
  | [] => ([], [])
  | c :: cs =>
    if isDigit c then
      let (d, r) := spanDigits cs
      (c :: d, r)
    else ([], c :: cs)

/-- Value of a digit string (most significant first), continuing from `acc`. -/
def natOfDigits (acc : Nat) : List Char → Nat
  | [] => acc
  | c :: cs => natOfDigits (acc * 10 + (c.toNat - '0'.toNat)) cs

def isIdentStart (c : Char) : Bool := c.isAlpha
def isIdentChar (c : Char) : Bool := c.isAlphanum || c == '_' || c == '$'

def spanIdent : List Char → List Char × List Char
  | [] => ([], [])
  | c :: cs =>
    if isIdentChar c then
      let (d, r) := spanIdent cs
      (c :: d, r)
    else ([], c :: cs)

def statOfName (w : List Char) : Option StatName :=
  if w == "min".toList then some .min
  else if w == "max".toList then some .max
  else if w == "mean".toList then some .mean
  else if w == "std".toList then some .std
  else none

/-- Optional exponent `[eE] [+-]? [0-9]+` at the head of the input: the factor to multiply by
    and the remaining input; when the pattern does not match completely nothing is consumed
    (`1e` is the number `1` followed by the identifier `e`). -/
def lexExponent (cs : List Char) : Rat × List Char :=
  match cs with
  | e :: r =>
    if e == 'e' || e == 'E' then
      let (negative, r1) :=
        match r with
        | '+' :: r1 => (false, r1)
        | '-' :: r1 => (true, r1)
        | _ => (false, r)
      match spanDigits r1 with
      | ([], _) => (1, cs)
      | (ds, r2) =>
        let p : Rat := ((10 ^ natOfDigits 0 ds : Nat) : Rat)
        (if negative then 1 / p else p, r2)
    else (1, cs)
  | [] => (1, cs)

/-- `number := [0-9]+ ('.' [0-9]*)? ([eE] [+-]? [0-9]+)?` at the head of the input (the caller
    has checked that the first character is a digit): exact rational value and remaining input. -/
def lexNumber (cs : List Char) : Rat × List Char :=
  let (ip, r1) := spanDigits cs
  let (fp, r3) :=
    match r1 with
    | '.' :: r2 => spanDigits r2
    | _ => ([], r1)
  let mant : Rat := (natOfDigits 0 (ip ++ fp) : Rat) / ((10 ^ fp.length : Nat) : Rat)
  let (scale, r4) := lexExponent r3
  (mant * scale, r4)

/-- Lexer loop; `fuel` bounds the number of tokens (every step consumes a character). -/
def lexAux : Nat → List Char → Option (List PTok)
  | 0, _ => none
  | _ + 1, [] => some []
  | f + 1, c :: cs =>
    if c == ' ' || c == '\t' then lexAux f cs
    else if c == '+' then (lexAux f cs).map (PTok.plus :: ·)
    else if c == '-' then (lexAux f cs).map (PTok.minus :: ·)
    else if c == '*' then (lexAux f cs).map (PTok.times :: ·)
    else if c == '/' then (lexAux f cs).map (PTok.slash :: ·)
    else if c == '(' then (lexAux f cs).map (PTok.lparen :: ·)
    else if c == ')' then (lexAux f cs).map (PTok.rparen :: ·)
    else if isDigit c then
      let (q, r) := lexNumber (c :: cs)
      (lexAux f r).map (PTok.num q :: ·)
    else if isIdentStart c then
      let (w, r) := spanIdent (c :: cs)
      match statOfName w with
      | some s => (lexAux f r).map (PTok.stat s :: ·)
      | none => none                               -- any other identifier
    else none                                      -- any other character

/-- Characters to tokens; `none` on an unknown character or identifier. -/
def lex (cs : List Char) : Option (List PTok) := lexAux (cs.length + 1) cs

/-- Lex, then parse the whole input. -/
def parseString (s : String) : Option Expr := (lex s.toList).bind parseAll

/-! ### Printers (inverse direction) -/

/-- Binding strength of a binary operator: `0` for the `expr` loop, `1` for the `term` loop
    (atoms are level `2`). -/
def BinOp.prec : BinOp → Nat
  | .add => 0 | .sub => 0 | .mul => 1 | .div => 1

def BinOp.tok : BinOp → PTok
  | .add => .plus | .sub => .minus | .mul => .times | .div => .slash

/-- A negative `num` has no number token (the lexer reads `-3` as `minus, num 3`, i.e.
    `neg (num 3)`): the printers are meant for trees whose literals are `≥ 0`. -/
def Expr.nonneg : Expr → Bool
  | .num q => decide (0 ≤ q)
  | .stat _ => true
  | .neg e => e.nonneg
  | .bin _ a b => a.nonneg && b.nonneg

/-- Print `e` in a position that requires binding strength at least `p`
    (`0` = expr, `1` = term, `2` = atom), with parentheses only where the grammar needs them:
    * a binary node is parenthesised iff its operator binds weaker than `p`;
    * the LEFT operand of an operator is printed at the operator's own level (the loops are
      left associative, so `a - b - c` is `(a - b) - c`), the RIGHT operand one level higher
      (`a - (b - c)`, `a / (b * c)` keep their parentheses);
    * the operand of `neg` is an atom: `- - x`, `- 3`, `- ( a * b )`; a `neg` itself is an atom
      and never needs parentheses (`2 - -3`, `-a * b` is `(neg a) * b`). -/
def Expr.toToksP : Nat → Expr → List PTok
  | _, .num q => [.num q]
  | _, .stat s => [.stat s]
  | _, .neg e => .minus :: Expr.toToksP 2 e
  | p, .bin op a b =>
    let body := Expr.toToksP op.prec a ++ op.tok :: Expr.toToksP (op.prec + 1) b
    if op.prec < p then .lparen :: body ++ [.rparen] else body

/-- Minimal-parentheses printer. -/
def Expr.toToks (e : Expr) : List PTok := e.toToksP 0

/-- Fully parenthesised printer: every binary node is `( a op b )`, every negation `- ( e )`. -/
def Expr.toToksFull : Expr → List PTok
  | .num q => [.num q]
  | .stat s => [.stat s]
  | .neg e => .minus :: .lparen :: e.toToksFull ++ [.rparen]
  | .bin op a b => .lparen :: a.toToksFull ++ op.tok :: b.toToksFull ++ [.rparen]

end IoosQc
