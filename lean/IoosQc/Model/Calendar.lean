/-
  IoosQc.Model.Calendar — proleptic Gregorian calendar fields of an instant given in whole
  seconds since 1970-01-01T00:00:00, as pandas' DatetimeIndex accessors report them.
  C08's climatology theorems are parametric in `periodOf`; what these definitions compute is
  proved in `Theorems/C08Calendar.lean` and `C08IsoWeek.lean`, and their agreement with pandas
  is checked day by day by the correspondence run.
-/
import IoosQc.Model.Tests

namespace IoosQc

/-- (year, month, day) from days since 1970-01-01 (H. Hinnant's `civil_from_days`). -/
def civilFromDays (z0 : Int) : Int × Int × Int :=
  let z := z0 + 719468
  let era := z / 146097
  let doe := z - era * 146097
  let yoe := (doe - doe / 1460 + doe / 36524 - doe / 146096) / 365
  let y := yoe + era * 400
  let doy := doe - (365 * yoe + yoe / 4 - yoe / 100)
  let mp := (5 * doy + 2) / 153
  let d := doy - (153 * mp + 2) / 5 + 1
  let m := if mp < 10 then mp + 3 else mp - 9
  (if m ≤ 2 then y + 1 else y, m, d)

def daysFromCivil (y0 m d : Int) : Int :=
  let y := if m ≤ 2 then y0 - 1 else y0
  let era := y / 400
  let yoe := y - era * 400
  let mp := if m > 2 then m - 3 else m + 9
  let doy := (153 * mp + 2) / 5 + d - 1
  let doe := yoe * 365 + yoe / 4 - yoe / 100 + doy
  era * 146097 + doe - 719468

def isLeap (y : Int) : Bool := (y % 4 == 0 && y % 100 != 0) || y % 400 == 0

/-- Monday = 0 … Sunday = 6. -/
def weekdayOfDays (days : Int) : Int := (days + 3) % 7

/-- Number of ISO weeks of year `y`. -/
def isoWeeksInYear (y : Int) : Int :=
  let jan1 := weekdayOfDays (daysFromCivil y 1 1)
  if jan1 == 3 || (isLeap y && jan1 == 2) then 53 else 52

def isoWeek (days : Int) : Int :=
  let (y, _, _) := civilFromDays days
  let doy := days - daysFromCivil y 1 1 + 1
  let wd := weekdayOfDays days + 1
  let w := (doy - wd + 10) / 7
  if w < 1 then isoWeeksInYear (y - 1)
  else if w > isoWeeksInYear y then 1
  else w

def periodOf (p : Period) (t : Int) : Int :=
  let days := t / 86400
  let sod := t % 86400
  let (y, m, d) := civilFromDays days
  match p with
  | .year => y
  | .month => m
  | .day => d
  | .hour => sod / 3600
  | .quarter => (m - 1) / 3 + 1
  | .dayofyear => days - daysFromCivil y 1 1 + 1
  | .dayofweek => weekdayOfDays days
  | .week => isoWeek days

end IoosQc
