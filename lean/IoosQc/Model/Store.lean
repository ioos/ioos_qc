/-
  IoosQc.Model.Store — `utils.cf_safe_name`, `stores.column_from_collected_result`,
  `PandasStore.save` (after the `exclude` repair).  `PandasStore.compute_aggregate` is not modelled.
  Column contents are opaque identifiers interned by the harness.
-/
import IoosQc.Model.Aggregate

namespace IoosQc

def isSafeChar (c : Char) : Bool :=
  c == '_' || ('a' ≤ c && c ≤ 'z') || ('A' ≤ c && c ≤ 'Z') || ('0' ≤ c && c ≤ '9')

def isAsciiDigit (c : Char) : Bool := '0' ≤ c && c ≤ '9'

/-- `cf_safe_name`: prefix `v_` when the first character is a digit or underscore, then replace
    every character outside `[_a-zA-Z0-9]` by `_`. -/
def cfSafeName (s : List Char) : List Char :=
  let s' := match s with
    | c :: _ => if isAsciiDigit c || c == '_' then 'v' :: '_' :: s else s
    | [] => s
  s'.map fun c => if isSafeChar c then c else '_'

/-- One collected result as the store sees it. -/
structure StoreRes where
  stream : String
  package : String
  test : String
  fn : String                      -- identity of the test function
  results : Nat                    -- id of the flag column contents
  data : Nat
  tinp : Option Nat                -- none: the stream supplied no such axis (size-0 array)
  zinp : Option Nat
  lon : Option Nat
  lat : Option Nat
  deriving Repr, DecidableEq, Inhabited

/-- `column_from_collected_result`. -/
def rawName (r : StoreRes) : String :=
  (if r.stream = "" then "" else r.stream ++ ".") ++ (if r.package = "" then "" else r.package ++ ".") ++ r.test

def columnName (r : StoreRes) : String := String.ofList (cfSafeName (rawName r).toList)

def listed (l : Option (List String)) (r : StoreRes) : Bool :=
  match l with
  | none => false
  | some xs => xs.contains r.fn || xs.contains r.stream || xs.contains r.test

/-- Does the result pass the include / exclude filters? -/
def kept (inc exc : Option (List String)) (r : StoreRes) : Bool :=
  (inc.isNone || listed inc r) && !(listed exc r)

abbrev Frame := List (String × Nat)

def Frame.has (df : Frame) (name : String) : Bool := df.any (·.1 = name)

def addIfAbsent (df : Frame) (name : String) (v : Option Nat) : Frame :=
  match v with
  | some x => if df.has name then df else df ++ [(name, x)]
  | none => df

/-- One iteration of the loop of `PandasStore.save`. -/
def saveStep (writeData writeAxes : Bool) (inc exc : Option (List String)) (df : Frame) (r : StoreRes) : Frame :=
  let df := if writeAxes then
      addIfAbsent (addIfAbsent (addIfAbsent (addIfAbsent df "time" r.tinp) "z" r.zinp) "lon" r.lon) "lat" r.lat
    else df
  if !(kept inc exc r) then df
  else
    let df := if writeData && r.stream != "" then addIfAbsent df r.stream (some r.data) else df
    addIfAbsent df (columnName r) (some r.results)

def storeSave (writeData writeAxes : Bool) (inc exc : Option (List String)) (rs : List StoreRes) : Frame :=
  rs.foldl (saveStep writeData writeAxes inc exc) []

end IoosQc
