/-
  IoosQc.Model.NpCollect — `results.collect_results_dict` in the form `harness/translate.py`
  regenerates from /repo's source (see `Model/NpSrc.lean` for the conventions): two nested `for`
  loops over the yielded ContextResults and their CallResults, a dict keyed by
  (stream id, package, test) whose arrays start as copies of an all-UNKNOWN template and receive
  `arr[r.subset_indexes] = results` context after context.  `Theorems/NpSrcGlue.lean` proves that
  every key ends with the fold `collectDict` (Model/Results) describes.
  (The `isinstance(r, CallResult)` shortcut for `QcConfig.run` results is outside the stream
  pipeline the property is about and is dropped.)
-/
import IoosQc.Model.Results

namespace IoosQc.NpSrc

/-- one CallResult: package, test, flags of the subset rows -/
structure TR where
  package : String
  test : String
  results : List Int
  deriving Repr, DecidableEq, Inhabited

/-- one ContextResult as the dict collector reads it -/
structure CR where
  stream : String
  subset : List Bool
  results : List TR
  deriving Repr, DecidableEq, Inhabited

abbrev DKey := String × String × String
abbrev DState := List (DKey × List (Option Int))

/-- `key in collected[…][…]`, `collected[…][…][key]`, `collected[…][…][key] = v` on an insertion-ordered mapping -/
def dlookup (d : DState) (k : DKey) : Option (List (Option Int)) :=
  match d with
  | [] => none
  | p :: ps => if p.1 = k then some p.2 else dlookup ps k
def dhas (d : DState) (k : DKey) : Bool := (dlookup d k).isSome
def dget (d : DState) (k : DKey) : List (Option Int) := (dlookup d k).getD []
/-- assignment keeps the position of an existing key and appends a new one (insertion order) -/
def dset (d : DState) (k : DKey) (v : List (Option Int)) : DState :=
  match d with
  | [] => [(k, v)]
  | p :: ps => if p.1 = k then (k, v) :: ps else p :: dset ps k v

/-- `np.ma.empty_like(mask, dtype="uint8")` then `.fill(x)`; `np.copy` -/
def emptyLikeFilled (mask : List Bool) (x : Int) : List (Option Int) := mask.map fun _ => some x

-- BEGIN GENERATED (harness/translate.py)
def collect_results_dict (results : List CR) : DState := Id.run do
  let mut collected : DState := []
  for r in results do
    let flag_arr := emptyLikeFilled r.subset 2
    for tr in r.results do
      let testpackage := tr.package
      let testname := tr.test
      let testresults := tr.results
      if !(dhas collected (r.stream, testpackage, testname)) then
        collected := dset collected (r.stream, testpackage, testname) flag_arr
      collected := dset collected (r.stream, testpackage, testname) (scatter (dget collected (r.stream, testpackage, testname)) r.subset testresults)
  return collected
-- END GENERATED

end IoosQc.NpSrc
