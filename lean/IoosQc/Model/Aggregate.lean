/-
  IoosQc.Model.Aggregate — `qartod.qartod_compare` (`qartod.aggregate` is not modelled).

  Code: result starts MISSING; for p in [MISSING, UNKNOWN, GOOD, SUSPECT, FAIL], for each vector
  v: `result[np.where(v == p)] = p`.  A cell of an input vector is a flag, a masked entry
  (`v == p` is masked there and `np.where` treats it as False) or any other number.
-/
import IoosQc.Model.Basic

namespace IoosQc

inductive Cell where
  | flag (f : Flag)
  | masked
  | junk (n : Int)       -- a value that is not a flag
  deriving DecidableEq, Repr, Inhabited

def priorities : List Flag := [.missing, .unknown, .good, .suspect, .fail]

/-- One pass of the inner loop for priority `p` over the cells of one position. -/
def passFor (p : Flag) (acc : Flag) (col : List Cell) : Flag :=
  col.foldl (fun a c => if c = .flag p then p else a) acc

/-- The aggregate at one position, given the cells of all vectors there (in vector order). -/
def compareAt (col : List Cell) : Flag :=
  priorities.foldl (fun acc p => passFor p acc col) .missing

/-- Column `i` of a list of vectors. -/
def column (vs : List (List Cell)) (i : Nat) : List Cell := vs.map fun v => v.getD i .masked

/-- `qartod_compare(vectors)`: IndexError on an empty list, AssertionError on unequal lengths. -/
def qartodCompare (vs : List (List Cell)) : Res :=
  match vs with
  | [] => throw .index
  | v :: rest =>
    if rest.all (fun w => w.length == v.length) then
      pure ((List.range v.length).map fun i => compareAt (column vs i))
    else throw .assertion

end IoosQc
