/-
  C07 — every equivalent spelling of a configuration yields the same set of calls.
  A configuration is given here in *typed* normal form (contexts → streams → modules → tests);
  the four layouts are functions from that normal form to the tree the user writes; the property
  says `Config` exposes exactly one call per configured (stream id, module, test) that names an
  existing function, with the configured parameters, window and region.
-/
import IoosQc.Model.Config

namespace IoosQc

structure NTest where
  name : String
  kwargs : J              -- mapping of parameters, or `null` (no parameters)
  deriving Repr, Inhabited

structure NModule where
  name : String
  tests : List NTest
  deriving Repr, Inhabited

structure NStream where
  id : String
  modules : List NModule
  deriving Repr, Inhabited

structure NCtx where
  window : J              -- `null` or a mapping with `starting` / `ending`
  region : J              -- `null` or the GeoJSON mapping as written
  regionSeen : J          -- how the parsed region is observed (harness-computed canonical form)
  streams : List NStream
  deriving Repr, Inhabited

/-! ### What the property demands -/

def NCtx.regionObserved (c : NCtx) : J :=
  match c.region with
  | .null => .null
  | r => if r.has "features" || r.has "geometry" then c.regionSeen else .null

/-- One call per configured (stream, module, test) naming an existing function. -/
def NCtx.spec (known : String → String → Bool) (c : NCtx) : List CallSpec :=
  c.streams.flatMap fun s =>
    s.modules.flatMap fun m =>
      m.tests.filterMap fun t =>
        if known m.name t.name then
          some ⟨s.id, m.name, t.name, orEmpty t.kwargs, c.window, c.regionObserved⟩
        else none

def specCalls (known : String → String → Bool) (cs : List NCtx) : List CallSpec := cs.flatMap (NCtx.spec known)

/-! ### The four layouts -/

def NModule.toJ (m : NModule) : String × J := (m.name, .obj (m.tests.map fun t => (t.name, t.kwargs)))
def NStream.toJ (s : NStream) : String × J := (s.id, .obj (s.modules.map NModule.toJ))
def streamsJ (ss : List NStream) : J := .obj (ss.map NStream.toJ)
def modulesJ (ms : List NModule) : J := .obj (ms.map NModule.toJ)

def NCtx.toJ (c : NCtx) : J :=
  .obj ((match c.window with | .null => [] | w => [("window", w)]) ++
        (match c.region with | .null => [] | r => [("region", r)]) ++
        [("streams", streamsJ c.streams)])

def contextsJ (cs : List NCtx) : J := .obj [("contexts", .arr (cs.map NCtx.toJ))]

inductive Layout where | contexts | context | streams | modules
  deriving Repr, DecidableEq, Inhabited

/-- The tree a user writes for configuration `cs` in the given layout, when expressible. -/
def layoutJ (l : Layout) (cs : List NCtx) : Option J :=
  match l, cs with
  | .contexts, cs => some (contextsJ cs)
  | .context, [c] => some c.toJ
  | .streams, [c] => (match c.window, c.region with | .null, .null => some (streamsJ c.streams) | _, _ => none)
  | .modules, [c] =>
    (match c.window, c.region, c.streams with
     | .null, .null, [s] => some (modulesJ s.modules)
     | _, _, _ => none)
  | _, _ => none

/-- What the contexts look like when the bare module mapping is bound to the default stream id. -/
def rebindDefault (l : Layout) (defaultKey : String) (cs : List NCtx) : List NCtx :=
  match l with
  | .modules => cs.map fun c => { c with streams := c.streams.map fun s => { s with id := defaultKey } }
  | _ => cs

/-- Takes out the first match; for `sameCalls`, the multiset equality of call lists (order of
    `Config.calls` is not part of the property). -/
def removeFirst (p : CallSpec → Bool) : List CallSpec → Option (List CallSpec)
  | [] => none
  | x :: xs => if p x then some xs else (removeFirst p xs).map (x :: ·)

def sameCalls : List CallSpec → List CallSpec → Bool
  | [], ys => ys.isEmpty
  | x :: xs, ys => match removeFirst (CallSpec.beq x) ys with
                   | some ys' => sameCalls xs ys'
                   | none => false

def C07.holds (known : String → String → Bool) (l : Layout) (defaultKey : String) (cs : List NCtx)
    (obs : List CallSpec) : Bool :=
  sameCalls (specCalls known (rebindDefault l defaultKey cs)) obs

/-! ### Well-formedness: the domain of the property -/

def isParamMapping (j : J) : Bool :=
  match j with
  | .null => true
  | .obj kvs => kvs.all fun p => p.2.depth == 0     -- scalar / list parameters (lists may hold mappings)
  | _ => false

def reserved (k : String) : Bool := k == "contexts" || k == "streams"

def NStream.wf (s : NStream) : Bool :=
  !reserved s.id && s.modules.all fun m => !reserved m.name && m.tests.all fun t => isParamMapping t.kwargs

/-- Some test carries a parameter mapping, possibly empty (what makes a bare stream mapping four
    levels deep; its absence — every test written without parameters — is the class of known
    finding F-09). -/
def hasParams (ss : List NStream) : Bool :=
  ss.any fun s => s.modules.any fun m => m.tests.any fun t =>
    match t.kwargs with | .obj _ => true | _ => false

def noDupKeys (ss : List NStream) : Bool :=
  (ss.map (·.id)).Nodup && ss.all fun s => (s.modules.map (·.name)).Nodup && s.modules.all fun m => (m.tests.map (·.name)).Nodup

def C07.inDom (l : Layout) (cs : List NCtx) : Bool :=
  cs.all (fun c => c.streams.all NStream.wf && noDupKeys c.streams) && (layoutJ l cs).isSome &&
  (match l with
   | .streams => cs.all fun c => hasParams c.streams
   | _ => true)

end IoosQc
