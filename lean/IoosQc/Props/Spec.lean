/-
  IoosQc.Props.Spec — what the *functional* properties (C02, C03, C08–C14) say each test must
  return, written from the property text and not from the code: nested "FAIL iff … else SUSPECT
  iff … else GOOD" sentences, one per test.  At every position the spec gives the list of
  admissible flags; a singleton means the properties pin the flag down, a longer list means
  they leave a choice (e.g. spike at a present interior point whose neighbour is missing).

  `conforms spec obs` is the check that is evaluated on the *code's* observed output by the
  driver, and `Theorems/C03.lean` – `C14.lean` prove `conforms (spec c) (model c)` test by test.
-/
import IoosQc.Model.Calendar

namespace IoosQc

/-- Canonical observation of one call of the real code. -/
inductive Obs where
  | flags (codes : List Int)      -- numeric flag values, in order
  | error (e : Err)
  deriving Repr, DecidableEq, Inhabited

def Res.toObs : Res → Obs
  | .ok fs => .flags (fs.map fun f => (f.code : Int))
  | .error e => .error e

inductive SpecOut where
  | flags (allowed : List (List Flag))
  | reject (cls : Option Err)     -- must raise; `some e`: must raise exactly this class
  deriving Repr, Inhabited

def anyFlag : List Flag := [.good, .unknown, .suspect, .fail, .missing]

def allowedCode (al : List Flag) (c : Int) : Bool := al.any fun f => (f.code : Int) == c

def conformsList : List (List Flag) → List Int → Bool
  | [], [] => true
  | a :: as, c :: cs => allowedCode a c && conformsList as cs
  | _, _ => false

def conforms (s : SpecOut) (o : Obs) : Bool :=
  match s, o with
  | .flags al, .flags cs => conformsList al cs
  | .reject none, .error _ => true
  | .reject (some e), .error e' => e == e'
  | _, _ => false

def lo2 (a b : Rat) : Rat := if a ≤ b then a else b
def hi2 (a b : Rat) : Rat := if a ≤ b then b else a

/-! ### C03 — range tests -/

/-- gross_range_test: FAIL iff strictly outside the fail span, else SUSPECT iff a suspect span
    is given and strictly outside it, else GOOD; a missing value is MISSING (C02). -/
def grossSpecAt (fa fb : Rat) (s : Option (Rat × Rat)) (x : V) : List Flag :=
  match x with
  | none => [.missing]
  | some v =>
    if v < lo2 fa fb ∨ hi2 fa fb < v then [.fail]
    else match s with
      | some (sa, sb) => if v < lo2 sa sb ∨ hi2 sa sb < v then [.suspect] else [.good]
      | none => [.good]

def grossSpec (fail : SeqArg) (suspect : Option SeqArg) (inp : List V) : SpecOut :=
  if !fail.isSeq then .reject none else
  match fail.vals with
  | [fa, fb] =>
    (match suspect with
     | none => .flags (inp.map (grossSpecAt fa fb none))
     | some s =>
       if !s.isSeq then .reject none else
       match s.vals with
       | [sa, sb] =>
         if lo2 sa sb < lo2 fa fb ∨ hi2 fa fb < hi2 sa sb then .reject (some .value)
         else .flags (inp.map (grossSpecAt fa fb (some (sa, sb))))
       | _ => .reject none)
  | _ => .reject none

/-- valid_range_test: FAIL exactly the present values outside the valid span; lower bound
    inclusive iff `startIncl`, upper iff `endIncl`; a missing bound is unbounded. -/
def validSpecAt (lo hi : V) (si ei : Bool) (x : V) : List Flag :=
  match x with
  | none => [.missing]
  | some v =>
    let below := match lo with | some l => if si then decide (v < l) else decide (v ≤ l) | none => false
    let above := match hi with | some h => if ei then decide (h < v) else decide (h ≤ v) | none => false
    if below || above then [.fail] else [.good]

/-! ### C14 — location -/

def locSpecAt (b : Box) (rangeMax : Option Rat) (lon lat : List V) (hops : List V) (i : Nat) : List Flag :=
  match getV lon i, getV lat i with
  | none, none => [.missing]
  | some _, none => [.fail]
  | none, some _ => [.fail]
  | some x, some y =>
    if x < b.minx ∨ b.maxx < x ∨ y < b.miny ∨ b.maxy < y then [.fail]
    else
      -- hop from the previous position, defined when both positions are fully present
      let hop : V := if i = 0 then none else
        (match getV lon (i - 1), getV lat (i - 1) with
         | some _, some _ => getV hops (i - 1)
         | _, _ => none)
      match rangeMax, hop with
      | some r, some d => if r < d then [.suspect] else [.good]
      | _, _ => [.good]

def locSpec (lon lat : List V) (bbox : SeqArg) (rangeMax : Option Rat) (hops : List V) : SpecOut :=
  if !bbox.isSeq then .reject none else
  match bbox.vals with
  | [x0, y0, x1, y1] =>
    if lon.length != lat.length then .reject none
    else .flags ((List.range lon.length).map (locSpecAt ⟨x0, y0, x1, y1⟩ rangeMax lon lat hops))
  | _ => .reject none

/-! ### C08 — climatology -/

def memberTime (periodOf : Period → Int → Int) (m : Member) (t : Int) : Rat :=
  match m.period with | some p => ((periodOf p t : Int) : Rat) | none => ((t : Int) : Rat)

/-- A member applies to an observation at time `t`, depth `z`. -/
def memberCovers (periodOf : Period → Int → Int) (m : Member) (t : Int) (z : V) : Bool :=
  let tv := memberTime periodOf m t
  decide (m.tspan.1 ≤ tv ∧ tv ≤ m.tspan.2) &&
  (match m.zspan with
   | none => true
   | some zs => (match z with | some zv => decide (zs.1 ≤ zv ∧ zv ≤ zs.2) | none => false))

def classify (m : Member) (v : Rat) : Flag :=
  if (match m.fspan with | some f => decide (v < f.1 ∨ f.2 < v) | none => false) then .fail
  else if v < m.vspan.1 ∨ m.vspan.2 < v then .suspect
  else .good

def climSpecAt (periodOf : Period → Int → Int) (ms : List Member) (t : Int) (x z : V) : List Flag :=
  match x with
  | none => [.missing]
  | some v =>
    match (ms.filter fun m => memberCovers periodOf m t z).getLast? with
    | none => [.unknown]
    | some m => [classify m v]

/-! ### C09 — spike -/

def spikeSpecAt (m : SpikeMethod) (sus fail : Option Rat) (xs : List V) (i : Nat) : List Flag :=
  let n := xs.length
  if i = 0 ∨ i + 1 = n then
    (match getV xs i with | some _ => [.unknown] | none => [.unknown, .missing])
  else match getV xs i with
    | none => [.missing]
    | some x =>
      match getV xs (i - 1), getV xs (i + 1) with
      | some p, some q =>
        let d : Rat := match m with
          | .average => rabs (x - (p + q) / 2)
          | .differential =>
            if (x - p) * (q - x) < 0 then lo2 (rabs (x - p)) (rabs (q - x)) else 0
        if (match fail with | some f => decide (f < d) | none => false) then [.fail]
        else if (match sus with | some s => decide (s < d) | none => false) then [.suspect]
        else [.good]
      | _, _ => anyFlag

def spikeSpec (method : String) (sus fail : Option Rat) (inp : List V) : SpecOut :=
  if method = "average" then .flags ((List.range inp.length).map (spikeSpecAt .average sus fail inp))
  else if method = "differential" then
    .flags ((List.range inp.length).map (spikeSpecAt .differential sus fail inp))
  else .reject (some .value)

/-! ### C10 — rate of change, speed -/

def elapsed (ts : List Int) (i : Nat) : Rat := ((ts.getD i 0 - ts.getD (i - 1) 0 : Int) : Rat)

def rocSpecAt (thr : Rat) (xs : List V) (ts : List Int) (i : Nat) : List Flag :=
  match getV xs i with
  | none => [.missing]
  | some b =>
    if i = 0 then [.good]
    else match getV xs (i - 1) with
      | none => [.good]
      | some a => if thr < rabs (b - a) / elapsed ts i then [.suspect] else [.good]

def rocSpec (inp : List V) (ts : List Int) (thr : Rat) : SpecOut :=
  if inp.length != ts.length then .reject (some .value)
  else .flags ((List.range inp.length).map (rocSpecAt thr inp ts))

def fullPos (lon lat : List V) (i : Nat) : Bool := (getV lon i).isSome && (getV lat i).isSome

def speedSpecAt (sus fail : Rat) (lon lat : List V) (ts : List Int) (hops : List V) (i : Nat) : List Flag :=
  if i = 0 then
    (if (getV lon 0).isNone && (getV lat 0).isNone then [.unknown, .missing] else [.unknown])
  else if fullPos lon lat i && fullPos lon lat (i - 1) then
    (match getV hops (i - 1) with
     | some d =>
       let v := d / elapsed ts i
       if fail < v then [.fail] else if sus < v then [.suspect] else [.good]
     | none => anyFlag)
  else if (getV lon i).isNone && (getV lat i).isNone then [.missing, .unknown]
  else anyFlag

def speedSpec (lon lat : List V) (ts : List Int) (sus fail : Rat) (hops : List V) : SpecOut :=
  if lon.length != lat.length || lon.length != ts.length then .reject (some .value)
  else .flags ((List.range lon.length).map (speedSpecAt sus fail lon lat ts hops))

/-! ### C11 — flat line -/

/-- All steps equal to `D`. -/
def regularStep (ts : List Int) (D : Int) : Bool := (diffs ts).all (· == D)

/-- Range of the present values among the `k+1` points ending at `i` is strictly below `tol`. -/
def flatWindowBelow (xs : List V) (k : Nat) (tol : Rat) (i : Nat) : Bool :=
  decide (k ≤ i) &&
  (match present (windowEnding xs i k) with
   | [] => false
   | v :: vs => decide ((vs.foldl rmax v) - (vs.foldl rmin v) < tol))

def flatSpecAt (regular : Option Int) (sus fail tol : Rat) (xs : List V) (i : Nat) : List Flag :=
  match getV xs i with
  | none => [.missing]
  | some _ =>
    if xs.length < 3 then [.good]
    else match regular with
      | none => [.good, .suspect, .fail]
      | some D =>
        if flatWindowBelow xs ((fail / (D : Rat)).floor.toNat) tol i then [.fail]
        else if flatWindowBelow xs ((sus / (D : Rat)).floor.toNat) tol i then [.suspect]
        else [.good]

def flatSpec (inp : List V) (ts : List Int) (sus fail tol : Rat) : SpecOut :=
  let reg : Option Int :=
    match diffs ts with
    | [] => none
    | D :: _ => if regularStep ts D && decide (1 ≤ D) then some D else none
  .flags ((List.range inp.length).map (flatSpecAt reg sus fail tol inp))

/-! ### C12 — attenuated signal -/

def attenSpecAt (s : Stat) (sus fail : Rat) (x : V) : List Flag :=
  match x with
  | none => [.missing]
  | some _ =>
    if s.isUndef then [.unknown]
    else if s.lt fail then [.fail]
    else if s.lt sus then [.suspect]
    else [.good]

def attenSpec (checkType : String) (inp : List V) (ts : List Int) (sus fail : Rat)
    (period : Option Rat) (minObs : Option Nat) (minPeriod : Option Rat) : SpecOut :=
  match (if checkType = "std" then some CheckType.std
         else if checkType = "range" then some CheckType.range else none) with
  | none => .reject (some .value)
  | some ct =>
    match period with
    | none => .flags (inp.map (attenSpecAt (wholeStat ct inp) sus fail))
    | some P =>
      let minp := max (attenMinp minObs minPeriod ts) 1
      .flags ((List.range inp.length).map fun i =>
        attenSpecAt (windowStat ct minp inp ts P i) sus fail (getV inp i))

/-! ### C13 — density inversion, pressure increasing -/

def pairBelow (rho z : List V) (thr : Rat) (j : Nat) : Bool :=
  match getV rho j, getV rho (j + 1), getV z j, getV z (j + 1) with
  | some r0, some r1, some z0, some z1 =>
    -- density change in the direction of increasing depth, zero at constant depth
    let change : Rat := if z0 < z1 then r1 - r0 else if z1 < z0 then r0 - r1 else 0
    decide (change < thr)
  | _, _, _, _ => false

def inPairBelow (rho z : List V) (thr : Option Rat) (i : Nat) : Bool :=
  match thr with
  | none => false
  | some θ => (decide (i + 1 < rho.length) && pairBelow rho z θ i) ||
              (decide (0 < i) && pairBelow rho z θ (i - 1))

def densSpecAt (sus fail : Option Rat) (rho z : List V) (i : Nat) : List Flag :=
  if rho.length = 1 then [.unknown, .missing]
  else if recMissing rho z i || (decide (0 < i) && recMissing rho z (i - 1)) then [.missing]
  else if inPairBelow rho z fail i then [.fail]
  else if inPairBelow rho z sus i then [.suspect]
  else [.good]

def densSpec (rho z : List V) (sus fail : Option Rat) : SpecOut :=
  if rho.length != z.length then .reject none
  else .flags ((List.range rho.length).map (densSpecAt sus fail rho z))

/-- pressure_increasing_test at one position.  The overall direction of a profile with no missing
    value is the sign of `p_last − p_first` (= sign of the mean step). -/
def pressSpecAt (p : List V) (i : Nat) : List Flag :=
  if p.any Option.isNone then [.good, .suspect]
  else if i = 0 then [.good]
  else
    match p.head?.join, p.getLast?.join, getV p (i - 1), getV p i with
    | some first, some last, some a, some b =>
      if first < last then (if a < b then [.good] else [.suspect])
      else if last < first then (if b < a then [.good] else [.suspect])
      else [.good, .suspect]          -- no overall direction: the property does not decide
    | _, _, _, _ => [.good, .suspect]

/-! ### All tests -/

def TestCall.spec (periodOf : Period → Int → Int) : TestCall → SpecOut
  | .gross f s inp => grossSpec f s inp
  | .valid lo hi si ei inp => .flags (inp.map (validSpecAt lo hi si ei))
  | .location lon lat b r h => locSpec lon lat b r h
  | .climatology ms inp t z =>
      .flags ((List.range inp.length).map fun i =>
        climSpecAt periodOf ms (t.getD i 0) (getV inp i) (getV z i))
  | .spike m s f inp => spikeSpec m s f inp
  | .roc inp t thr => rocSpec inp t thr
  | .flatLine inp t s f tol => flatSpec inp t s f tol
  | .attenuated ct inp t s f p mo mp => attenSpec ct inp t s f p mo mp
  | .density rho z s f => densSpec rho z s f
  | .pressure p => .flags ((List.range p.length).map (pressSpecAt p))
  | .speed lon lat t s f h => speedSpec lon lat t s f h

end IoosQc
