/-
  C16 — stricter thresholds never produce a better flag.
  `stricter c c'` : c' is the same test on the same data with parameters at least as strict.
  `C16.holds o o'` : no flag becomes less severe in GOOD < SUSPECT < FAIL and the set of
  UNKNOWN / MISSING points is unchanged.
-/
import IoosQc.Props.Domain

namespace IoosQc

/-- `new` at most `old`, an absent old threshold allowing any new one ("adding a threshold"). -/
def optLe (new old : Option Rat) : Bool :=
  match old, new with
  | none, _ => true
  | some _, none => false
  | some o, some n => decide (n ≤ o)

/-- `a'` at least `a`, likewise. -/
def optGe (new old : Option Rat) : Bool :=
  match old, new with
  | none, _ => true
  | some _, none => false
  | some o, some n => decide (o ≤ n)

/-- span `new` (any order) nested inside span `old` (any order). -/
def nested (new old : Rat × Rat) : Bool :=
  decide (lo2 old.1 old.2 ≤ lo2 new.1 new.2) && decide (hi2 new.1 new.2 ≤ hi2 old.1 old.2)

def seqPair (a : SeqArg) : Option (Rat × Rat) :=
  match a.vals with | [x, y] => some (x, y) | _ => none

def optNested (new old : Option (Rat × Rat)) : Bool :=
  match old, new with
  | none, _ => true
  | some _, none => false
  | some o, some n => nested n o

/-- lower bound of a valid span: `new` admits no value that `old` rejects from below. -/
def lowerStricter (loN : V) (inclN : Bool) (loO : V) (inclO : Bool) : Bool :=
  match loO, loN with
  | none, _ => true
  | some _, none => false
  | some o, some n => decide (o < n) || (decide (o = n) && (!inclN || inclO))

def upperStricter (hiN : V) (inclN : Bool) (hiO : V) (inclO : Bool) : Bool :=
  match hiO, hiN with
  | none, _ => true
  | some _, none => false
  | some o, some n => decide (n < o) || (decide (o = n) && (!inclN || inclO))

def memberStricter (n o : Member) : Bool :=
  decide (n.tspan = o.tspan) && decide (n.zspan = o.zspan) && decide (n.period = o.period) &&
  nested n.vspan o.vspan && optNested n.fspan o.fspan

def membersStricter : List Member → List Member → Bool
  | [], [] => true
  | n :: ns, o :: os => memberStricter n o && membersStricter ns os
  | _, _ => false

/-- `stricter old new`. -/
def stricter : TestCall → TestCall → Bool
  | .gross f s inp, .gross f' s' inp' =>
      decide (inp = inp') && f.isSeq && f'.isSeq && (s.all (·.isSeq)) && (s'.all (·.isSeq)) &&
      (match seqPair f, seqPair f' with
       | some p, some p' => nested p' p &&
          (match s, s' with
           | none, none => true
           | none, some u' => (match seqPair u' with | some q' => nested q' p' | none => false)
           | some _, none => false
           | some u, some u' =>
             (match seqPair u, seqPair u' with
              | some q, some q' => nested q' q && nested q p && nested q' p'
              | _, _ => false))
       | _, _ => false)
  | .valid lo hi si ei inp, .valid lo' hi' si' ei' inp' =>
      decide (inp = inp') && lowerStricter lo' si' lo si && upperStricter hi' ei' hi ei
  | .location lon lat b r h, .location lon' lat' b' r' h' =>
      decide (lon = lon') && decide (lat = lat') && decide (h = h') && b.isSeq && b'.isSeq &&
      (match b.vals, b'.vals with
       | [x0, y0, x1, y1], [x0', y0', x1', y1'] =>
          decide (x0 ≤ x0') && decide (y0 ≤ y0') && decide (x1' ≤ x1) && decide (y1' ≤ y1)
       | _, _ => false) && optLe r' r
  | .climatology ms inp t z, .climatology ms' inp' t' z' =>
      decide (inp = inp') && decide (t = t') && decide (z = z') && membersStricter ms' ms
  | .spike m s f inp, .spike m' s' f' inp' =>
      decide (m = m') && decide (inp = inp') && optLe s' s && optLe f' f
  | .roc inp t thr, .roc inp' t' thr' => decide (inp = inp') && decide (t = t') && decide (thr' ≤ thr)
  | .flatLine inp t s f tol, .flatLine inp' t' s' f' tol' =>
      decide (inp = inp') && decide (t = t') && decide (s' ≤ s) && decide (f' ≤ f) && decide (tol ≤ tol')
  | .attenuated ct inp t s f p mo mp, .attenuated ct' inp' t' s' f' p' mo' mp' =>
      decide (ct = ct') && decide (inp = inp') && decide (t = t') && decide (p = p') && decide (mo = mo') &&
      decide (mp = mp') && decide (s ≤ s') && decide (f ≤ f')
  | .density rho z s f, .density rho' z' s' f' =>
      decide (rho = rho') && decide (z = z') && optGe s' s && optGe f' f
  | .speed lon lat t s f h, .speed lon' lat' t' s' f' h' =>
      decide (lon = lon') && decide (lat = lat') && decide (t = t') && decide (h = h') &&
      decide (s' ≤ s) && decide (f' ≤ f)
  | _, _ => false

def sevOfCode (c : Int) : Option Nat :=
  if c == 1 then some 0 else if c == 3 then some 1 else if c == 4 then some 2 else none

/-- One position: not evaluated (UNKNOWN/MISSING) before iff not evaluated after (with the same
    flag), and no improvement otherwise. -/
def C16.holdsAt (c c' : Int) : Bool :=
  match sevOfCode c, sevOfCode c' with
  | none, none => (c == 2 || c == 9) && (c' == 2 || c' == 9)
  | some a, some b => decide (a ≤ b)
  | _, _ => false

def C16.holdsList : List Int → List Int → Bool
  | [], [] => true
  | a :: as, b :: bs => C16.holdsAt a b && C16.holdsList as bs
  | _, _ => false

def C16.holds (o o' : Obs) : Bool :=
  match o, o' with
  | .flags a, .flags b => C16.holdsList a b
  | _, _ => false

end IoosQc
