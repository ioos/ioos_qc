/-
  C14 — location_test: MISSING when both coordinates are missing, FAIL when exactly one is or
  the position is strictly outside the bounding box (edges are inside), else SUSPECT when the
  hop from the previous fully present position exceeds `range_max` (strictly), else GOOD.
  Of `inDom` the conformance theorem uses `hopsConsistent` (`C14_needs_hcons`) and
  `0 ≤ range_max` (`C14_needs_range_nonneg`).
-/
import IoosQc.Lemmas.Ladder
import IoosQc.Lemmas.NormalForm

namespace IoosQc

theorem locationAt_spec (b : Box) (rangeMax : Option Rat) (n : Nat) (lon lat hops : List V)
    (i : Nat) (hn : i < n)
    (hr : ∀ r, rangeMax = some r → 0 ≤ r)
    (hcons : HopsConsistent lon lat hops) :
    locationAt b rangeMax n (getV lon i) (getV lat i) (hopAt hops i)
      ∈ locSpecAt b rangeMax lon lat hops i := by
  rw [locationAt_ladder _ _ _ _ _ _ (hopOver_lacking rangeMax n lon lat hops i hn hr hcons),
    hopOver_hopAt _ _ _ _ hn hr]
  unfold locSpecAt
  cases hx : getV lon i with
  | none => cases getV lat i <;> simp
  | some x =>
    cases hy : getV lat i with
    | none => simp
    | some y =>
      simp only [Option.isNone_some, Bool.and_self, bne_self_eq_false, Bool.false_or, outsideBox_some]
      by_cases hout : x < b.minx ∨ b.maxx < x ∨ y < b.miny ∨ b.maxy < y
      · simp [hout]
      · rw [if_neg hout, decide_eq_false hout]
        cases rangeMax with
        | none => simp
        | some r =>
          by_cases hi : i = 0
          · simp [hi]
          · -- the hop the property speaks of (both ends fully present) is the supplied one
            cases hd : getV hops (i - 1) with
            | none => cases getV lon (i - 1) <;> cases getV lat (i - 1) <;> simp [hi]
            | some d =>
              have hc := hcons (i - 1)
              rw [hd] at hc
              cases hp : getV lon (i - 1) with
              | none => cases hc (.inl (congrArg Option.isNone hp))
              | some p =>
                cases hq : getV lat (i - 1) with
                | none => cases hc (.inr (.inl (congrArg Option.isNone hq)))
                | some q => simpa [hi, hd] using ladder_mem false false false (decide (r < d))

/-- C14; the property at one position is `locSpecAt` (Props/Spec.lean).  The harness guarantees
    the conjunct `hopsConsistent` of the domain. -/
theorem C14_location (lon lat : List V) (bbox : SeqArg) (rangeMax : Option Rat) (hops : List V)
    (h : (TestCall.location lon lat bbox rangeMax hops).inDom = true) :
    conforms (locSpec lon lat bbox rangeMax hops) (locationTest lon lat bbox rangeMax hops).toObs = true := by
  have hcons := hcons_of_consistent (location_inDom_hops h)
  have hr := location_inDom_range h
  -- any calendar will do (`TestCall.run_eq`)
  have hrun := TestCall.run_eq (fun _ t => t) (.location lon lat bbox rangeMax hops)
  simp only [TestCall.run, TestCall.flagAt, TestCall.size] at hrun
  rw [hrun]
  refine bbox.box_rel (fun s r => conforms s r.toObs = true) (fun _ => rfl) _ _ _
    fun x0 y0 x1 y1 => ?_
  split
  · rfl
  · exact conforms_flags_range _ _ _
      (fun i hi => locationAt_spec ⟨x0, y0, x1, y1⟩ rangeMax lon.length lon lat hops i hi hr hcons)

theorem C14_inside_not_fail (b : Box) (rangeMax : Option Rat) (n : Nat) (x y : Rat) (d : V)
    (hx0 : b.minx ≤ x) (hx1 : x ≤ b.maxx) (hy0 : b.miny ≤ y) (hy1 : y ≤ b.maxy) :
    locationAt b rangeMax n (some x) (some y) d ≠ .fail := by
  rw [locationAt_some, ne_eq, ladder_eq_fail]
  grind

theorem C14_box_edges (b : Box) (rangeMax : Option Rat) (n : Nat) (x y : Rat) (d : V)
    (hbx : b.minx ≤ b.maxx) (hby : b.miny ≤ b.maxy) :
    (b.miny ≤ y → y ≤ b.maxy →
      locationAt b rangeMax n (some b.minx) (some y) d ≠ .fail ∧
      locationAt b rangeMax n (some b.maxx) (some y) d ≠ .fail) ∧
    (b.minx ≤ x → x ≤ b.maxx →
      locationAt b rangeMax n (some x) (some b.miny) d ≠ .fail ∧
      locationAt b rangeMax n (some x) (some b.maxy) d ≠ .fail) := by
  refine ⟨fun h0 h1 => ⟨?_, ?_⟩, fun h0 h1 => ⟨?_, ?_⟩⟩
  · exact C14_inside_not_fail b rangeMax n _ _ d (Rat.le_refl) hbx h0 h1
  · exact C14_inside_not_fail b rangeMax n _ _ d hbx (Rat.le_refl) h0 h1
  · exact C14_inside_not_fail b rangeMax n _ _ d h0 h1 (Rat.le_refl) hby
  · exact C14_inside_not_fail b rangeMax n _ _ d h0 h1 hby (Rat.le_refl)

theorem C14_corners_good (b : Box) (n : Nat) (d : V)
    (hbx : b.minx ≤ b.maxx) (hby : b.miny ≤ b.maxy) :
    locationAt b none n (some b.minx) (some b.miny) d = .good ∧
    locationAt b none n (some b.minx) (some b.maxy) d = .good ∧
    locationAt b none n (some b.maxx) (some b.miny) d = .good ∧
    locationAt b none n (some b.maxx) (some b.maxy) d = .good := by
  simp only [locationAt_some, ladder_eq_good, hopOver]
  grind

theorem C14_fail_overrides_suspect (b : Box) (rangeMax : Option Rat) (n : Nat) (x y : Rat) (d : V)
    (hout : x < b.minx ∨ b.maxx < x ∨ y < b.miny ∨ b.maxy < y) :
    locationAt b rangeMax n (some x) (some y) d = .fail := by
  rw [locationAt_some, ladder_eq_fail]
  simpa using hout

-- `hn`, `hhop` are not used: FAIL by the box does not look at the hop
set_option linter.unusedVariables false in
theorem C14_fail_overrides_suspect' (b : Box) (r : Rat) (n : Nat) (x y h : Rat)
    (hn : 1 < n) (hhop : r < h)
    (hout : x < b.minx ∨ b.maxx < x ∨ y < b.miny ∨ b.maxy < y) :
    locationAt b (some r) n (some x) (some y) (some h) = .fail :=
  C14_fail_overrides_suspect b (some r) n x y (some h) hout

theorem C14_hop_strict (b : Box) (r : Rat) (n : Nat) (x y h : Rat) (hn : 1 < n)
    (hx0 : b.minx ≤ x) (hx1 : x ≤ b.maxx) (hy0 : b.miny ≤ y) (hy1 : y ≤ b.maxy) :
    (r < h → locationAt b (some r) n (some x) (some y) (some h) = .suspect) ∧
    locationAt b (some r) n (some x) (some y) (some r) = .good := by
  simp only [locationAt_some, ladder_eq_good, ladder_eq_suspect, hopOver, vgt_some]
  grind

/-- The hop into a position lacking a coordinate is `none`, as `hopsConsistent` demands. -/
theorem C14_missing_coords (b : Box) (rangeMax : Option Rat) (n : Nat) (v : Rat) :
    locationAt b rangeMax n (some v) none none = .fail ∧
    locationAt b rangeMax n none (some v) none = .fail ∧
    locationAt b rangeMax n none none none = .missing := by
  have h : hopOver rangeMax n none = false := by cases rangeMax <;> simp [hopOver]
  simp [locationAt_ladder _ _ _ _ _ _ (fun _ => h), outsideBox]

/-- `hopsConsistent` cannot be dropped: given a distance into an entirely missing position, the
    model (like the code, had it that distance) answers SUSPECT where the property says MISSING. -/
theorem C14_needs_hcons :
    (TestCall.location [some 0, none] [some 0, none] ⟨true, [-10, -10, 10, 10]⟩ (some 1) [some 5]).inDom = false ∧
    (locationTest [some 0, none] [some 0, none] ⟨true, [-10, -10, 10, 10]⟩ (some 1) [some 5]).toObs
      = .flags [1, 3] ∧
    conforms (locSpec [some 0, none] [some 0, none] ⟨true, [-10, -10, 10, 10]⟩ (some 1) [some 5])
      (locationTest [some 0, none] [some 0, none] ⟨true, [-10, -10, 10, 10]⟩ (some 1) [some 5]).toObs
      = false := by
  decide +kernel

/-- Outside the domain (negative `range_max`) the first point, whose hop is 0, is SUSPECT. -/
theorem C14_needs_range_nonneg :
    (TestCall.location [some 0, some 0] [some 0, some 0] ⟨true, [-10, -10, 10, 10]⟩ (some (-1)) [some 0]).inDom = false ∧
    conforms (locSpec [some 0, some 0] [some 0, some 0] ⟨true, [-10, -10, 10, 10]⟩ (some (-1)) [some 0])
      (locationTest [some 0, some 0] [some 0, some 0] ⟨true, [-10, -10, 10, 10]⟩ (some (-1)) [some 0]).toObs
      = false := by
  decide +kernel

/-- Hop 7 > 6; lon 20 is outside the box (and hop 16 > 6); the last point is a box corner with
    hop = range_max. -/
example : (locationTest [some 0, some 5, some 20, none, none, some 1, some 10]
    [some 0, some 5, some 0, some 3, none, some 1, some (-10)] ⟨true, [-10, -10, 10, 10]⟩ (some 6)
    [some 7, some 16, none, none, none, some 6]).toObs = .flags [1, 3, 4, 4, 9, 1, 1] := by
  decide +kernel

example : conforms
    (locSpec [some 0, some 5, some 20, none, none, some 1, some 10]
      [some 0, some 5, some 0, some 3, none, some 1, some (-10)] ⟨true, [-10, -10, 10, 10]⟩ (some 6)
      [some 7, some 16, none, none, none, some 6])
    (locationTest [some 0, some 5, some 20, none, none, some 1, some 10]
      [some 0, some 5, some 0, some 3, none, some 1, some (-10)] ⟨true, [-10, -10, 10, 10]⟩ (some 6)
      [some 7, some 16, none, none, none, some 6]).toObs = true := by
  apply C14_location
  decide +kernel

example : (locationTest [some 0] [some 0] ⟨false, [0, 0, 1, 1]⟩ none []).toObs = .error .type ∧
    (locationTest [some 0] [some 0] ⟨true, [0, 0, 1]⟩ none []).toObs = .error .value ∧
    (locationTest [some 0] [some 0, some 1] ⟨true, [0, 0, 1, 1]⟩ none []).toObs = .error .value := by
  decide +kernel

end IoosQc
