/-
  Source pins.  A pin ties one literal of /repo's current source to the model: on every run harness/extract.py reads the
  literal with Python's `ast`, writes it into a small generated Lean file and lets the kernel check, by `decide`, that it
  passes the check stated here (an admissibility predicate `Pin.*Ok`, or equality with the model's value); the theorem
  `Cxx_pin_*`, instantiated in that file, says what follows for the code that uses the literal, for EVERY value that
  passes.  A literal that is read but not admissible breaks a proof obligation; a source that lacks the recognisable
  shape claims nothing.
-/
import IoosQc.Theorems.C04
import IoosQc.Model.Store
import IoosQc.Model.Fx
import IoosQc.Model.Defaults
import IoosQc.Model.Tests
import IoosQc.Model.Config
import IoosQc.Model.Streams

namespace IoosQc

/-! ### Flag codes (`class QartodFlags`) -/

namespace Pin

/-- The source's table agrees with `Flag.code` and names every flag. -/
def flagCodesOk (t : List (Flag × Nat)) : Bool :=
  t.all (fun e => e.1.code == e.2) &&
  [Flag.good, .unknown, .suspect, .fail, .missing].all (fun f => t.any (fun e => e.1 == f))

end Pin

theorem C01_pin_flagCodes (t : List (Flag × Nat)) (h : Pin.flagCodesOk t = true) :
    (∀ e ∈ t, e.1.code = e.2) ∧ (∀ f : Flag, ∃ e ∈ t, e.1 = f ∧ e.2 = f.code) := by
  unfold Pin.flagCodesOk at h
  simp only [Bool.and_eq_true, List.all_eq_true, beq_iff_eq, List.any_eq_true] at h
  refine ⟨h.1, fun f => ?_⟩
  have hf : f ∈ [Flag.good, .unknown, .suspect, .fail, .missing] := by cases f <;> decide
  obtain ⟨e, he, hef⟩ := h.2 f hf
  exact ⟨e, he, hef, by rw [← hef]; exact (h.1 e he).symm⟩

theorem C04_pin_flagCodes (t : List (Flag × Nat)) (h : Pin.flagCodesOk t = true) :
    (∀ e ∈ t, e.1.code = e.2) ∧ (∀ f : Flag, ∃ e ∈ t, e.1 = f ∧ e.2 = f.code) := C01_pin_flagCodes t h

/-! ### Priority list of `qartod_compare` -/

namespace Pin

/-- `qartod_compare` at one position, for an arbitrary priority table. -/
def aggregateWith (ps : List Flag) (col : List Cell) : Flag :=
  ps.foldl (fun acc p => passFor p acc col) .missing

theorem aggregateWith_priorities (col : List Cell) : aggregateWith priorities col = compareAt col := rfl

def sortedByRank : List Flag → Bool
  | [] => true
  | p :: ps => ps.all (fun q => p.rank ≤ q.rank) && sortedByRank ps

/-- Sorted by precedence (repetitions allowed) and mentioning the four flags above MISSING. -/
def prioritiesOk (ps : List Flag) : Bool :=
  sortedByRank ps && [Flag.unknown, .good, .suspect, .fail].all (fun f => ps.contains f)

theorem sortedByRank_pairwise (ps : List Flag) (h : sortedByRank ps = true) :
    ps.Pairwise fun p q => p.rank ≤ q.rank := by
  induction ps with
  | nil => exact List.Pairwise.nil
  | cons p ps ih =>
    simp only [sortedByRank, Bool.and_eq_true, List.all_eq_true, decide_eq_true_eq] at h
    exact List.Pairwise.cons h.1 (ih h.2)

example : prioritiesOk priorities = true := by decide
example : prioritiesOk [.unknown, .good, .good, .suspect, .fail] = true := by decide
/-- a swapped pair, a dropped flag; the swapped list does aggregate wrongly -/
example : prioritiesOk [.missing, .unknown, .suspect, .good, .fail] = false := by decide
example : prioritiesOk [.missing, .unknown, .good, .fail] = false := by decide
example : aggregateWith [.missing, .unknown, .suspect, .good, .fail] [.flag .good, .flag .suspect] ≠
    worstOf [.flag .good, .flag .suspect] := by decide

end Pin

theorem C04_pin_priorities (ps : List Flag) (h : Pin.prioritiesOk ps = true) (col : List Cell) :
    Pin.aggregateWith ps col = worstOf col := by
  simp only [Pin.prioritiesOk, Bool.and_eq_true, List.all_eq_true, List.contains_eq_mem, decide_eq_true_eq] at h
  exact foldl_passFor_worst col ps (Pin.sortedByRank_pairwise ps h.1) h.2

/-! ### Character classes of `cf_safe_name` -/

namespace Pin

def inRanges (rs : List (Nat × Nat)) (c : Char) : Bool := rs.any (fun r => r.1 ≤ c.toNat && c.toNat ≤ r.2)

/-- `cf_safe_name` for arbitrary classes: `lead` triggers the prefix, `keep` is left alone, all else becomes `repl`. -/
def cfSafeWith (lead keep : List (Nat × Nat)) (pre : List Char) (repl : Char) (s : List Char) : List Char :=
  let s' := match s with
    | c :: _ => if inRanges lead c then pre ++ s else s
    | [] => s
  s'.map fun c => if inRanges keep c then c else repl

def hasAll (want have_ : List (Nat × Nat)) : Bool := want.all (fun r => have_.contains r)

/-- The classes name exactly the ranges 0-9 _ (lead) and _ a-z A-Z 0-9 (keep), in any order and with repetitions;
    prefix `v_`, replacement `_`. -/
def classesOk (lead keep : List (Nat × Nat)) (pre : List Char) (repl : Char) : Bool :=
  hasAll [(48, 57), (95, 95)] lead && hasAll lead [(48, 57), (95, 95)] &&
  hasAll [(95, 95), (97, 122), (65, 90), (48, 57)] keep && hasAll keep [(95, 95), (97, 122), (65, 90), (48, 57)] &&
  pre == ['v', '_'] && repl == '_'

private theorem inRanges_congr (a b : List (Nat × Nat)) (h1 : hasAll a b = true) (h2 : hasAll b a = true) (c : Char) :
    inRanges a c = inRanges b c := by
  unfold hasAll at h1 h2
  simp only [List.all_eq_true, List.contains_eq_mem, decide_eq_true_eq] at h1 h2
  rw [Bool.eq_iff_iff]
  unfold inRanges
  simp only [List.any_eq_true]
  constructor
  · rintro ⟨r, hr, h⟩; exact ⟨r, h1 r hr, h⟩
  · rintro ⟨r, hr, h⟩; exact ⟨r, h2 r hr, h⟩

private theorem char_range (lo hi c : Char) :
    (decide (lo ≤ c) && decide (c ≤ hi)) = (decide (lo.toNat ≤ c.toNat) && decide (c.toNat ≤ hi.toNat)) := rfl

private theorem char_beq (c d : Char) : (c == d) = (decide (d.toNat ≤ c.toNat) && decide (c.toNat ≤ d.toNat)) := by
  rw [Bool.eq_iff_iff, beq_iff_eq, Bool.and_eq_true, decide_eq_true_eq, decide_eq_true_eq, ← Nat.le_antisymm_iff,
    eq_comm, Char.toNat, Char.toNat, UInt32.toNat_inj, Char.val_inj]

example : classesOk [(48, 57), (95, 95)] [(95, 95), (97, 122), (65, 90), (48, 57)] ['v', '_'] '_' = true := by decide
example : classesOk [(48, 57)] [(95, 95), (97, 122), (65, 90), (48, 57)] ['v', '_'] '_' = false := by decide

end Pin

theorem C19_pin_cfSafe_classes (lead keep : List (Nat × Nat)) (pre : List Char) (repl : Char)
    (h : Pin.classesOk lead keep pre repl = true) (s : List Char) :
    Pin.cfSafeWith lead keep pre repl s = cfSafeName s := by
  unfold Pin.classesOk at h
  simp only [Bool.and_eq_true, beq_iff_eq] at h
  obtain ⟨⟨⟨⟨⟨l1, l2⟩, k1⟩, k2⟩, hp⟩, hr⟩ := h
  -- after the two rewrites both sides list the same code-point ranges in the same order
  have hl : ∀ c, Pin.inRanges lead c = (isAsciiDigit c || c == '_') := fun c => by
    rw [Pin.inRanges_congr lead _ l2 l1 c]
    simp only [Pin.inRanges, isAsciiDigit, List.any_cons, List.any_nil, Bool.or_false, Pin.char_range, Pin.char_beq]
    rfl
  have hk : ∀ c, Pin.inRanges keep c = isSafeChar c := fun c => by
    rw [Pin.inRanges_congr keep _ k2 k1 c]
    simp only [Pin.inRanges, isSafeChar, List.any_cons, List.any_nil, Bool.or_false, Pin.char_range, Pin.char_beq,
      Bool.or_assoc]
    rfl
  subst hp; subst hr
  unfold Pin.cfSafeWith cfSafeName
  cases s with
  | nil => simp
  | cons c cs => simp only [hl, hk]; rfl

/-! ### Operator table of `fx_parser` (`opn`) -/

namespace Pin

inductive PyOp where | add | sub | mul | truediv | pow | other
  deriving DecidableEq, Repr

def BinOp.symbol : BinOp → Char
  | .add => '+' | .sub => '-' | .mul => '*' | .div => '/'

def BinOp.pyOp : BinOp → PyOp
  | .add => .add | .sub => .sub | .mul => .mul | .div => .truediv

/-- Every operator symbol of the model is bound, in the source's table, to the `operator` function whose arithmetic
    `Expr.eval` uses, and to nothing else. -/
def fxOpsOk (t : List (Char × PyOp)) : Bool :=
  [BinOp.add, .sub, .mul, .div].all fun o => (t.filter (fun e => e.1 == BinOp.symbol o)).map (·.2) == [BinOp.pyOp o]

example : fxOpsOk [('+', .add), ('-', .sub), ('*', .mul), ('/', .truediv), ('^', .pow)] = true := by decide
example : fxOpsOk [('+', .add), ('-', .add), ('*', .mul), ('/', .truediv)] = false := by decide

end Pin

theorem C20_pin_fxOps (t : List (Char × Pin.PyOp)) (h : Pin.fxOpsOk t = true) (o : BinOp) :
    ∀ e ∈ t, e.1 = Pin.BinOp.symbol o → e.2 = Pin.BinOp.pyOp o := by
  unfold Pin.fxOpsOk at h
  simp only [List.all_eq_true, beq_iff_eq] at h
  have ho : o ∈ [BinOp.add, .sub, .mul, .div] := by cases o <;> decide
  intro e he hs
  have hm : e.2 ∈ (t.filter (fun e => e.1 == Pin.BinOp.symbol o)).map (·.2) :=
    List.mem_map.mpr ⟨e, List.mem_filter.mpr ⟨he, by simp [hs]⟩, rfl⟩
  rw [h o ho] at hm
  simpa using hm

/-! ### Defaults of the signatures (`Model/Defaults.lean` is what the decoder fills in for an omitted keyword) -/

/-- A `valid_range_test` call that names neither flag is the lower-inclusive, upper-exclusive test of the property. -/
theorem C03_pin_defaults (s e : Bool) (h : (s, e) = (Defaults.validStartInclusive, Defaults.validEndInclusive))
    (lo hi : V) (inp : List V) : validRange lo hi s e inp = validRange lo hi true false inp := by
  cases h; rfl

theorem C09_pin_default_method (m : String) (h : m = Defaults.spikeMethod) (sus fail : Option Rat) (inp : List V) :
    spikeTest m sus fail inp = spikeTest "average" sus fail inp := by
  subst h; rfl

theorem C11_pin_default_tolerance (tol : Rat) (h : tol = Defaults.flatTolerance) (inp : List V) (ts : List Int) (sus fail : Rat) :
    flatLineTest inp ts sus fail tol = flatLineTest inp ts sus fail 0 := by
  subst h; rfl

theorem C12_pin_default_check_type (c : String) (h : c = Defaults.attenCheckType) (inp : List V) (ts : List Int) (sus fail : Rat)
    (period : Option Rat) (minObs : Option Nat) (minPeriod : Option Rat) :
    attenuatedTest c inp ts sus fail period minObs minPeriod = attenuatedTest "std" inp ts sus fail period minObs minPeriod := by
  subst h; rfl

theorem C14_pin_default_bbox (b : List Rat) (h : b = Defaults.locationBBox) (lon lat : List V) (r : Option Rat) (hops : List V) :
    locationTest lon lat ⟨true, b⟩ r hops = locationTest lon lat ⟨true, [-180, -90, 180, 90]⟩ r hops := by
  subst h; rfl

/-! ### Layout dispatch of `Config.__init__` -/

namespace Pin

/-- One test of the `if … elif … elif … else` chain in `Config.__init__`. -/
inductive LayoutTest where
  | contextsKey (k : String)     -- `"k" in self.config`: a list of contexts under `k`
  | streamsKey (k : String)      -- `"k" in self.config`: the tree is one context
  | depthGe (n : Nat)            -- `dict_depth(self.config) >= n`: a bare stream-id mapping
  deriving DecidableEq, Repr

/-- `Config(source)` on the parsed tree for an ARBITRARY chain of layout tests (the final `else` binds the tree to the
    default stream id). -/
def configCallsWith (knownMod : String → Bool) (known : String → String → Bool) (defaultKey : String) :
    List LayoutTest → J → List CallSpec
  | [], cfg => contextCalls knownMod known (.obj [("streams", .obj [(defaultKey, cfg)])])
  | .contextsKey k :: rest, cfg =>
      if cfg.has k then
        (match cfg.get? k with
         | some (.arr cs) => cs.flatMap (contextCalls knownMod known)
         | _ => [])
      else configCallsWith knownMod known defaultKey rest cfg
  | .streamsKey k :: rest, cfg =>
      if cfg.has k then (if k = "streams" then contextCalls knownMod known cfg else [])
      else configCallsWith knownMod known defaultKey rest cfg
  | .depthGe n :: rest, cfg =>
      if n ≤ cfg.depth then contextCalls knownMod known (.obj [("streams", cfg)])
      else configCallsWith knownMod known defaultKey rest cfg

/-- the chain the model (`configCalls`) and the theorems of C07 are about -/
def layoutChain : List LayoutTest := [.contextsKey "contexts", .streamsKey "streams", .depthGe 4]

end Pin

/-- `chain`, `dk`: the layout tests (keys, order, depth threshold) and the default stream key read from `Config.__init__`. -/
theorem C07_pin_layout (chain : List Pin.LayoutTest) (dk : String) (h : (chain, dk) = (Pin.layoutChain, "_stream"))
    (knownMod : String → Bool) (known : String → String → Bool) (cfg : J) :
    Pin.configCallsWith knownMod known dk chain cfg = configCalls knownMod known "_stream" cfg := by
  cases h
  simp only [Pin.layoutChain, Pin.configCallsWith, if_true]
  rfl

/-! ### The window comparisons of the three stream front ends -/

namespace Pin

/-- `column OP bound` as written in the source. -/
inductive Cmp where | ge | gt | le | lt
  deriving DecidableEq, Repr

def Cmp.eval : Cmp → Int → Int → Bool
  | .ge, t, b => decide (b ≤ t)
  | .gt, t, b => decide (b < t)
  | .le, t, b => decide (t ≤ b)
  | .lt, t, b => decide (t < b)

/-- The row mask of a front end that narrows an all-True mask with `t OPs starting` and `t OPe ending` (when given). -/
def maskWith (ops : Cmp × Cmp) (w : Window) (ts : List Int) : List Bool :=
  ts.map fun t =>
    (match w.starting with | some a => ops.1.eval t a | none => true) &&
    (match w.ending with | some b => ops.2.eval t b | none => true)

theorem maskWith_spec (w : Window) (ts : List Int) : maskWith (.ge, .lt) w ts = specMask w ts := by
  unfold maskWith specMask inWindow
  cases w.starting <;> cases w.ending <;> simp [Cmp.eval]

end Pin

/-- `fes`: per front end (PandasStream, NumpyStream, XarrayStream) the operators its window code applies to `starting`
    and to `ending`. -/
theorem C05_pin_window (fes : List (Pin.Cmp × Pin.Cmp)) (h : fes = [(.ge, .lt), (.ge, .lt), (.ge, .lt)])
    (w : Window) (ts : List Int) : ∀ ops ∈ fes, Pin.maskWith ops w ts = specMask w ts := by
  subst h
  intro ops hops
  simp only [List.mem_cons, List.mem_nil_iff, or_false, or_self] at hops
  subst hops
  exact Pin.maskWith_spec w ts

example : Pin.maskWith (.ge, .le) ⟨some 10, some 20⟩ [9, 10, 20, 21] ≠ specMask ⟨some 10, some 20⟩ [9, 10, 20, 21] := by decide
example : Pin.maskWith (.gt, .lt) ⟨some 10, some 20⟩ [9, 10, 20, 21] ≠ specMask ⟨some 10, some 20⟩ [9, 10, 20, 21] := by decide

end IoosQc
