/-
  The eleven QC tests as `harness/translate.py` regenerates them from /repo's source (`Model/NpSrc.lean`) compute the pointwise
  models of `Model/Tests.lean`: `Cxx_src_f : f_test args = fTest args`, for every input (`C08_src_climatology`: for time, data and
  depth columns of one length).  The comparisons do not go through `xxxAt_ladder`: computed by `np`, a program is the nested `if` of
  its assignments in program order, which `overrides` on the model's literal rule list reduces to, whereas the ladder sorts the
  conditions by priority.
-/
import IoosQc.Model.NpSrc
import IoosQc.Theorems.NpRefine

namespace IoosQc.NpSrc
open IoosQc.Np

theorem C03_src_gross (inp : List V) (f : SeqArg) (s : Option SeqArg) : gross_range_test inp f s = grossRange f s inp := by
  rw [← C03_np_gross]
  -- the two spell the parameter checks differently: on every shape of the two span arguments they unfold to the same term
  rcases f with ⟨_ | _, _ | ⟨a, _ | ⟨b, _ | ⟨c, t⟩⟩⟩⟩ <;> try rfl
  rcases s with _ | ⟨_ | _, _ | ⟨c, _ | ⟨d, _ | ⟨e, t⟩⟩⟩⟩ <;> rfl

theorem C10_src_roc (inp : List V) (ts : List Int) (thr : Rat) : rate_of_change_test inp ts thr = rocTest inp ts thr := by
  rw [← C10_np_roc]
  unfold rate_of_change_test rocArr rocBody
  by_cases h : inp.length = ts.length <;> simp [h, length_ofInput, exc]

theorem C09_src_spike (inp : List V) (sus fail : Option Rat) (method : String) :
    spike_test inp sus fail method = spikeTest method sus fail inp := by
  rw [← C09_np_spike]
  -- the two differ in one term: the flag array starts as `ones inp.length` (`inp.size`) in the program, as `ones diff.length` in
  -- `spikeFlags`; the `_val` lemmas give the length of `diff` (computing it by `np` again nearly doubles the cost)
  unfold spike_test spikeArr spikeFlags applyThr
  by_cases ha : method = "average"
  · obtain ⟨c, hc, _⟩ := spikeDiffAverage_val inp
    have hl : (spikeDiffAverage (ofInput inp)).length = (ofInput inp).length := by rw [hc, length_tab, length_ofInput]
    unfold spikeDiffAverage at hl
    cases sus <;> cases fail <;> simp [ha, spikeDiffAverage, hl, exc]
  · by_cases hd : method = "differential"
    · obtain ⟨c, hc, _⟩ := spikeDiffDifferential_val inp
      have hl : (spikeDiffDifferential (ofInput inp)).length = (ofInput inp).length := by rw [hc, length_tab, length_ofInput]
      unfold spikeDiffDifferential at hl
      cases sus <;> cases fail <;> simp [hd, spikeDiffDifferential, hl, exc]
    · simp [ha, hd, exc]

/-- The leak: with a missing predecessor `diff` holds |x| = 100 under the mask (second example), which the raw comparison with the
    threshold 3 selects; the closing `flag_arr[diff.mask] = MISSING` makes the flag MISSING (first example). -/
example : (spike_test [some 1, none, some 100, some 1] (some 3) none "average").toOption
    = some [.unknown, .missing, .missing, .unknown] := by decide +kernel
example : (spikeDiffAverage (ofInput [some 1, none, some 100, some 1]))[2]? = some ⟨.num 100, true⟩ := by decide +kernel

theorem hopCell_eq_cellOf (h : V) : hopCell h = cellOf h := by cases h <;> rfl

/-- here and in `C10_src_speed`, `great_circle_distance` is the model input `hops` -/
theorem C14_src_location (lon lat : List V) (bbox : SeqArg) (rm : Option Rat) (hops : List V) :
    location_test lon lat bbox rm hops = locationTest lon lat bbox rm hops := by
  rcases bbox with ⟨_ | _, bv⟩
  · rfl
  rcases bv with _ | ⟨x0, _ | ⟨y0, _ | ⟨x1, _ | ⟨y1, _ | ⟨z, t⟩⟩⟩⟩⟩
  rotate_left 4   -- four numbers first
  · unfold location_test locationTest boxOf
    simp [fixedLength, exc]
    by_cases hl : lon.length = lat.length
    · cases rm with
      | none =>
        simp only [np, ← hl, if_true]
        rfl
      | some r =>
        simp only [np, ← hl, if_true, hopCell_eq_cellOf]
        by_cases hn : 1 < lon.length <;> simp only [locationAt, hn, if_true, if_false] <;> rfl
    · simp [hl, length_ofInput]
  -- fewer or more than four numbers: both sides raise, by computation
  all_goals rfl

/-- `fl[:-1][c] = x; fl[1:][c] = x`: two writes through views of `fl`, to both members of every selected adjacent pair -/
def pairStep (fl : List Flag) (c : BArr) (x : Flag) : List Flag :=
  let s := setInit1 fl (setWhereB (init1 fl) c x)
  setTail s (setWhereB (tail1 s) c x)

@[np] theorem pairStep_tab (n : Nat) (f : Nat → Flag) (c : Nat → BCell) (x : Flag) :
    pairStep (tab n f) (tab (n - 1) c) x
      = tab n fun i => if (decide (i + 1 < n) && (c i).d) || (decide (0 < i) && (c (i - 1)).d) then x else f i := by
  simp only [pairStep, np]
  apply tab_congr; intro i hi
  cases i with
  | zero => by_cases h : 0 + 1 < n <;> simp [h]
  | succ k => by_cases h : k + 1 + 1 < n <;> cases h1 : (c k).d <;> simp [h, h1]

theorem anyB_tab_false {n : Nat} {c : Nat → BCell} (h : ¬ anyB (tab n c) = true) (j : Nat) (hj : j < n) :
    (!(c j).m && (c j).d) = false := by
  have h' := List.any_eq_false.mp (Bool.not_eq_true _ ▸ h) (c j)
    (List.mem_of_getElem? (by rw [getElem?_tab, if_pos hj]))
  simpa using h'

/-- the `if any(c):` guard is an optimisation only: without a selected pair the two writes do nothing -/
theorem guarded_pairStep (fl : List Flag) (c : BArr) (x : Flag) (hl : c.length + 1 = fl.length) :
    (if anyB c then pairStep fl (eqTrue c) x else fl) = pairStep fl (eqTrue c) x := by
  by_cases h : anyB c = true
  · simp [h]
  · simp only [h]
    have hc : c.length = fl.length - 1 := by omega
    rw [eq_tab c default, hc] at h ⊢
    rw [eq_tab fl .good]
    simp only [np]
    apply tab_congr; intro i hi
    have a : (decide (i + 1 < fl.length) && (!(c.getD i default).m && (c.getD i default).d)) = false := by
      by_cases h1 : i + 1 < fl.length
      · rw [anyB_tab_false h i (by omega), Bool.and_false]
      · simp [h1]
    have b : (decide (0 < i) && (!(c.getD (i - 1) default).m && (c.getD (i - 1) default).d)) = false := by
      cases i with
      | zero => simp
      | succ k => rw [Nat.add_sub_cancel, anyB_tab_false h k (by omega), Bool.and_false]
    simp only [a, b]; rfl

/-- `delta = np.sign(np.diff(zinp)) * np.diff(inp)` carries `densDelta` -/
theorem delta_val (rho z : List V) (h : rho.length = z.length) :
    ∃ D, maBin Fl.mul (uf1 Fl.sign (maDiff (ofInput z))) (maDiff (ofInput rho)) = tab (rho.length - 1) D ∧
      ∀ j, cellVal (D j) (densDelta rho z j) := by
  -- the witness is what `np` computes, as in `spikeDiffAverage_val`
  refine ⟨_, by simp only [np, ← h]; rfl, fun j => ?_⟩
  unfold densDelta
  cases getV rho j <;> cases getV rho (j + 1) <;> cases getV z j <;> cases getV z (j + 1) <;>
    simp [cellVal, cellOf, Fl.sub, Fl.lift2, Fl.sign, Fl.mul]

/-- one threshold's `if any(…):` block -/
def densStep (o : Option Rat) (fl : List Flag) (delta : MArr) (x : Flag) : List Flag :=
  match o with
  | some s => if anyB (ltS delta s) then pairStep fl (eqTrue (ltS delta s)) x else fl
  | none => fl

@[np] theorem densStep_tab (o : Option Rat) (n : Nat) (f : Nat → Flag) (D : Nat → Cell) (x : Flag) :
    densStep o (tab n f) (tab (n - 1) D) x = tab n fun i =>
      if (match o with
          | some s => (decide (i + 1 < n) && (!(D i).m && (D i).d.ltS s)) || (decide (0 < i) && (!(D (i - 1)).m && (D (i - 1)).d.ltS s))
          | none => false) then x else f i := by
  cases o with
  | none => exact tab_congr fun i _ => by simp
  | some s =>
    by_cases hn : n = 0
    · subst hn; simp only [densStep]; split <;> rfl
    · rw [densStep, guarded_pairStep _ _ _ (by simp only [np]; omega)]
      simp only [np]

def densBody (sus fail : Option Rat) (rho z : List V) : List Flag :=
  let delta := maBin Fl.mul (uf1 Fl.sign (maDiff (ofInput z))) (maDiff (ofInput rho))
  let fl := densStep fail (densStep sus (ones rho.length) delta .suspect) delta .fail
  let miss := bor2 (maskOf (ofInput rho)) (maskOf (ofInput z))
  let fl := setWhere fl miss .missing
  setTail fl (setWhere (tail1 fl) (init1 miss) .missing)

theorem densBody_eq (sus fail : Option Rat) (rho z : List V) (h : rho.length = z.length) :
    densBody sus fail rho z = tab rho.length (densAt sus fail rho z) := by
  obtain ⟨D, hD, hv⟩ := delta_val rho z h
  simp only [densBody, hD]
  simp only [np, ← h, cellVal_ltS (hv _)]
  apply tab_congr; intro i hi
  cases i with
  | zero => simp [densAt, overrides, densPairBelow, recMissing]; rfl
  | succ k => simp [densAt, overrides, densPairBelow, recMissing]; rfl

theorem C13_src_density (rho z : List V) (sus fail : Option Rat) :
    density_inversion_test rho z sus fail = densityTest rho z sus fail := by
  unfold density_inversion_test densityTest
  by_cases hl : rho.length = z.length
  · by_cases h0 : rho.length = 0
    · simp [h0, length_ofInput, exc, ← hl]
    · by_cases h1 : rho.length < 2
      · have h11 : rho.length = 1 := by omega
        simp [h11, length_ofInput, exc, ← hl, ones, setAt0]
      · -- the program is `densBody` with what follows an `if any(…):` copied into both branches
        rw [map_range, ← densBody_eq sus fail rho z hl]
        cases sus <;> cases fail <;>
          simp only [exc, length_ofInput, ← hl, h0, h1, bne_self_eq_false, beq_iff_eq, Bool.false_eq_true, if_false, densBody, densStep,
            pairStep]
        -- one `if` per threshold given
        · split <;> rfl
        · split <;> rfl
        · split <;> split <;> rfl
  · simp [hl, length_ofInput, exc]

/-- WHATEVER number (`junk`) the caller's masked array holds under its mask: this function does not fill masked cells with NaN, the
    comparison does flag the hidden number, and the closing `flag_arr[inp.mask] = MISSING` repairs it. -/
theorem C03_src_valid (inp : List V) (span : V × V) (si ei : Bool) (junk : List Fl) :
    valid_range_test inp span si ei junk = validRange span.1 span.2 si ei inp := by
  unfold valid_range_test validRange
  simp only [exc, np, map_eq_tab]
  rcases span with ⟨lo, hi⟩
  cases lo <;> cases hi <;> cases si <;> cases ei <;>
    refine congrArg Except.ok (tab_congr fun i _ => ?_) <;> cases getV inp i <;> rfl

/-- the hidden 100 is flagged FAIL before the last statement -/
example : (valid_range_test [some 1, none, some 5] (some 0, some 3) true false [.nan, .num 100, .nan]).toOption
    = some [.good, .missing, .fail] := by decide +kernel
example : (setWhereB (ones 3) (geS (ofInputJunk [some 1, none, some 5] [.nan, .num 100, .nan]) 3) .fail)
    = [.good, .fail, .fail] := by decide +kernel

def toFl (v : V) : Fl := match v with | some q => .num q | none => .nan

theorem mem_where_succ (m : Nat) (c : Nat → Bool) (i : Nat) :
    i ∈ (npWhere (tab m c)).map (· + 1) ↔ (0 < i ∧ i - 1 < m ∧ c (i - 1) = true) := by
  simp only [npWhere, List.mem_map, List.mem_filter, List.mem_range, length_tab]
  constructor
  · rintro ⟨j, ⟨hj, hc⟩, rfl⟩
    rw [getD_tab _ _ hj] at hc
    exact ⟨Nat.succ_pos _, hj, hc⟩
  · rintro ⟨h0, hm, hc⟩
    exact ⟨i - 1, ⟨hm, by rw [getD_tab _ _ hm]; exact hc⟩, by omega⟩

theorem sumList_toFl (xs : List V) : Fl.sumList (xs.map toFl) = toFl (vsum xs) := by
  induction xs with
  | nil => rfl
  | cons x xs ih =>
    simp only [List.map_cons, Fl.sumList, ih, vsum]
    cases x <;> cases vsum xs <;> simp [toFl, Fl.add, Fl.lift2]

theorem npDiff_filled (p : List V) :
    npDiff (ofInputFilled p) = tab (p.length - 1) fun j => toFl (pressDelta p j) := by
  rw [ofInputFilled, map_eq_tab]
  simp only [npDiff, np]
  exact tab_congr fun j _ => by unfold pressDelta; cases getV p (j + 1) <;> cases getV p j <;> rfl

theorem sign_ltS (f : Fl) : (Fl.sign f).ltS 0 = f.ltS 0 := by
  cases f with
  | nan => rfl
  | num a =>
    simp only [Fl.sign, Fl.ltS, rsign]
    by_cases h : a < 0
    · simp only [h, if_true, decide_true]; decide
    · simp only [h, if_false, decide_false]; split <;> decide

theorem mean_ltS (xs : List V) : (npMean (xs.map toFl)).ltS 0 = vlt (vsum xs) 0 := by
  unfold npMean vlt
  rw [List.length_map, sumList_toFl]
  cases xs with
  | nil => rfl
  | cons x xs =>
    rw [if_neg (by simp)]
    cases vsum (x :: xs) with
    | none => rfl
    | some s =>
      have hn : (0 : Rat) < ((x :: xs).length : Nat) := by exact_mod_cast Nat.succ_pos _
      simp only [toFl, Fl.divS, Fl.ltS, Rat.div_lt_iff hn, Rat.zero_mul]

theorem sign_of_ltS {f : Fl} (h : (Fl.sign f).ltS 0 = true) : Fl.sign f = .num (-1) := by
  cases f with
  | nan => cases h
  | num a =>
    simp only [Fl.sign, rsign] at h ⊢
    split at h
    · rw [if_pos ‹_›]
    · split at h <;> exact absurd h (by decide)

/-- the left side is position `i` of the program as `np` and `mem_where_succ` compute it -/
theorem press_point (p : List V) (flip : Bool) (i : Nat) (hi : i < p.length) :
    (if 0 < i ∧ i - 1 < p.length - 1 ∧
        (if flip then Fl.mul (.num (-1)) (toFl (pressDelta p (i - 1))) else toFl (pressDelta p (i - 1))).leS 0 = true
      then Flag.suspect else Flag.good) = pressAt p flip i := by
  unfold pressAt
  cases i with
  | zero => simp [overrides]
  | succ k =>
    have hk : k < p.length - 1 := by omega
    simp only [Nat.zero_lt_succ, true_and, Nat.add_sub_cancel, hk, decide_true, Bool.true_and, overrides, List.foldl]
    cases pressDelta p k with
    | none => cases flip <;> simp [toFl, Fl.mul, Fl.lift2, Fl.leS]
    | some d =>
      cases flip
      · simp [toFl, Fl.leS]
      · have : (-1 * d ≤ 0) ↔ (0 ≤ d) := by grind
        simp [toFl, Fl.mul, Fl.lift2, Fl.leS, this]

theorem C13_src_pressure (p : List V) : pressure_increasing_test p = pressureTest p := by
  unfold pressure_increasing_test pressureTest
  simp only [exc, npDiff_filled, map_range]
  have hlen : (ofInputFilled p).length = p.length := by simp [ofInputFilled]
  have hlt : (Fl.sign (npMean (tab (p.length - 1) fun j => toFl (pressDelta p j)))).ltS 0 = pressFlip p := by
    have h := mean_ltS ((List.range (p.length - 1)).map (pressDelta p))
    rw [List.map_map] at h
    exact (sign_ltS _).trans h
  cases hf : pressFlip p with
  | false =>
    simp only [hlt, hf, Bool.false_eq_true, if_false, np, hlen, mem_where_succ]
    exact congrArg Except.ok (tab_congr fun i hi => press_point p false i hi)
  | true =>
    have hsign := sign_of_ltS (hlt.trans hf)
    simp only [hsign, np, hlen, mem_where_succ]
    exact congrArg Except.ok (tab_congr fun i hi => press_point p true i hi)

theorem C10_src_speed (lon lat : List V) (ts : List Int) (sus fail : Rat) (hops : List V) :
    speed_test lon lat ts sus fail hops = speedTest lon lat ts sus fail hops := by
  unfold speed_test speedTest
  by_cases hg : (lon.length != lat.length || lon.length != ts.length) = true
  · simp [length_ofInput, hg, exc]
  · obtain ⟨h1, h2⟩ : lon.length = lat.length ∧ lon.length = ts.length := by simpa using hg
    by_cases h0 : lon.length = 0
    · simp [h0, ← h1, ← h2, length_ofInput, exc]
    · have hpos : 0 < lon.length := by omega
      simp only [exc, np, ← h1, ← h2, h0, setAt0_tab _ _ _ hpos, bne_self_eq_false, Bool.or_self, Bool.false_eq_true, if_false,
        beq_iff_eq, map_range]
      by_cases hlt : lon.length < 2
      · have h11 : lon.length = 1 := by omega
        simp only [h11]
        rfl
      · simp only [hlt, if_false]
        refine congrArg Except.ok (tab_congr fun i hi => ?_)
        unfold speedAt
        cases i with
        | zero => simp [overrides, hopAt, hopCell]
        | succ j =>
          simp only [Nat.add_sub_cancel]
          cases hopAt hops (j + 1) <;>
            simp [overrides, vgt, Fl.gtS, Fl.divS, Fl.abs, Fl.isNan, divCell, hopCell]

theorem rowVals_window (xs : List V) (r k : Nat) :
    rowVals (maskedInvalid ((((ofInput xs).drop r).take (k + 1)).map fun c => ⟨c.d, false⟩)) = present ((xs.drop r).take (k + 1)) := by
  simp only [ofInput, ← List.map_drop, ← List.map_take, maskedInvalid, List.map_map, rowVals, present, List.filterMap_map]
  congr 1
  funext v
  cases v <;> simp [cellOf, Fl.isNan]

def ltOpt (o : Option Rat) (tol : Rat) : Bool := match o with | some r => decide (r < tol) | none => false

theorem flatHit_eq (xs : List V) (k : Nat) (tol : Rat) (i : Nat) :
    flatHit xs k tol i = (decide (k ≤ i) && ltOpt (spread (present (windowEnding xs i k))) tol) := by
  unfold flatHit ltOpt; cases spread (present (windowEnding xs i k)) <;> rfl

theorem testResults_tab (xs : List V) (k : Nat) (tol : Rat) :
    insertFalse (min xs.length k)
        (filledFalse (ltS (uf1 Fl.abs (maBin Fl.sub (rowMax (rollingWindow (ofInput xs) k)) (rowMin (rollingWindow (ofInput xs) k)))) tol))
      = tab xs.length (flatHit xs k tol) := by
  simp only [rollingWindow, rowMax, rowMin, insertFalse, length_ofInput, map_range, map_tab, rowVals_window]
  simp only [np]
  rw [show min xs.length k + (xs.length - k) = xs.length by omega]
  apply tab_congr; intro i hi
  rw [flatHit_eq, windowEnding]
  by_cases hk : k ≤ i
  · have hmin : min xs.length k = k := by omega
    simp only [hmin, Nat.not_lt.mpr hk, if_false, hk, decide_true, Bool.true_and]
    cases present ((xs.drop (i - k)).take (k + 1)) <;>
      simp [lmax, lmin, optCell, spread, Fl.sub, Fl.lift2, Fl.abs, Fl.ltS, ltOpt]
  · have h1 : i < min xs.length k := by omega
    simp only [h1, if_true, hk, decide_false, Bool.false_and]

theorem C11_src_flat (inp : List V) (ts : List Int) (sus fail tol : Rat) :
    flat_line_test inp ts sus fail tol = flatLineTest inp ts sus fail tol := by
  unfold flat_line_test flatLineTest
  by_cases h3 : inp.length < 3
  · simp only [length_ofInput, h3, if_true, exc, map_eq_tab]
    simp only [np]
    rfl
  · simp only [length_ofInput, h3, if_false, exc, testResults_tab, map_range]
    simp only [np]
    rfl

/-! ## climatology_test, with `ClimatologyConfig.check` inlined as `climatology_check` -/

def zIdx (m : Member) (inp zinp : MArr) : BArr :=
  match m.zspan with
  | some zs => andB (andB (plainB (notP (maskOf zinp))) (geS zinp zs.1)) (leS zinp zs.2)
  | none => zipMask (notP (isnanData inp)) (maskOf inp)

def failIdx (m : Member) (inp : MArr) : BArr :=
  match m.fspan with
  | some f => bor (ltS inp f.1) (gtS inp f.2)
  | none => plainB (List.replicate inp.length false)

/-- one pass of the member loop, as a pure function of the flag array -/
def climStep (periodOf : Period → Int → Int) (tinp : List Int) (inp zinp : MArr) (fl : List Flag) (m : Member) : List Flag :=
  if m.zspan.isSome && noneUnmasked zinp then fl
  else
    let tcopy := match m.period with
      | some p => if p = Period.week then isoWeekOf periodOf tinp else attrOf periodOf p tinp
      | none => asInstants tinp
    let values_idx := andB (plainB (band (geR tcopy m.tspan.1) (leR tcopy m.tspan.2))) (zIdx m inp zinp)
    let fail_idx := failIdx m inp
    let suspect_idx := bor (ltS inp m.vspan.1) (gtS inp m.vspan.2)
    let fl := setWhereB fl (andB values_idx fail_idx) .fail
    let fl := setWhereB fl (andB (andB values_idx (notB fail_idx)) suspect_idx) .suspect
    setWhereB fl (andB (andB values_idx (notB fail_idx)) (notB suspect_idx)) .good

theorem noneUnmasked_eq (a : MArr) : noneUnmasked a = a.all (·.m) := by
  rw [noneUnmasked, Bool.eq_iff_iff]
  simp [List.filter_eq_nil_iff]

theorem noneUnmasked_ofInput (zs : List V) : noneUnmasked (ofInput zs) = zs.all Option.isNone := by
  rw [noneUnmasked_eq, ofInput, List.all_map]
  exact List.all_congr rfl fun z => cellOf_m z

theorem check_eq_foldl (periodOf : Period → Int → Int) (ms : List Member) (tinp : List Int) (inp zinp : MArr) :
    climatology_check periodOf ms tinp inp zinp
      = pure (setWhere (ms.foldl (climStep periodOf tinp inp zinp)
          (setWhere (fillFlags (emptyFlags inp.length) .unknown) (maskOf inp) .missing)) (maskOf inp) .missing) := by
  unfold climatology_check
  dsimp only
  rw [forIn_eq_foldl _ _ _ (fun m r => climStep periodOf tinp inp zinp r m)]
  · rfl
  · intro m r
    unfold climStep zIdx failIdx
    -- the translated body chooses the time column first and carries a copy of all that follows in every branch
    by_cases hskip : (m.zspan.isSome && noneUnmasked zinp) = true
    · simp only [hskip, if_true]
      cases m.period with
      | none => rfl
      | some p => exact ite_self _
    · simp only [hskip]
      cases m.period with
      | none => cases m.zspan <;> cases m.fspan <;> rfl
      | some p =>
        by_cases hw : p = Period.week <;> simp only [hw, if_true, if_false] <;> cases m.zspan <;> cases m.fspan <;> rfl

theorem tcopy_tab (periodOf : Period → Int → Int) (m : Member) (n : Nat) (T : Nat → Int) :
    (match m.period with
      | some p => if p = Period.week then isoWeekOf periodOf (tab n T) else attrOf periodOf p (tab n T)
      | none => asInstants (tab n T)) = tab n fun i => memberTime periodOf m (T i) := by
  unfold memberTime
  cases m.period with
  | none => simp only [np]
  | some p =>
    by_cases hw : p = Period.week
    · subst hw; simp only [np, if_true]
    · simp only [np, hw, if_false]

/-- only `.d` of a boolean index is read by an assignment through it -/
theorem zIdx_val (m : Member) (xs zs : List V) (h : zs.length = xs.length) :
    ∃ c, zIdx m (ofInput xs) (ofInput zs) = tab xs.length c ∧ ∀ i tv,
      (decide (m.tspan.1 ≤ tv) && decide (tv ≤ m.tspan.2) && (c i).d)
        = (memberMatches m tv (getV zs i) && (m.zspan.isSome || (getV xs i).isSome)) := by
  unfold zIdx memberMatches inside
  cases m.zspan with
  | none => exact ⟨_, by simp only [np]; rfl, fun i tv => by simp⟩
  | some s => exact ⟨_, by simp only [np, h]; rfl, fun i tv => by cases getV zs i <;> simp [vge, vle]⟩

theorem failIdx_val (m : Member) (xs : List V) :
    ∃ c, failIdx m (ofInput xs) = tab xs.length c ∧ ∀ i,
      (c i).d = match m.fspan with | some f => outside (getV xs i) f | none => false := by
  unfold failIdx
  cases m.fspan with
  | none => exact ⟨_, by simp only [np]; rfl, fun i => rfl⟩
  | some s => exact ⟨_, by simp only [np]; rfl, fun i => rfl⟩

theorem climStep_tab (periodOf : Period → Int → Int) (m : Member) (n : Nat) (T : Nat → Int) (xs zs : List V) (f : Nat → Flag)
    (hx : xs.length = n) (hz : zs.length = n) :
    climStep periodOf (tab n T) (ofInput xs) (ofInput zs) (tab n f) m
      = tab n fun i => memberApply m (f i) (memberTime periodOf m (T i)) (getV xs i) (getV zs i) (zs.all Option.isNone) := by
  unfold climStep
  rw [noneUnmasked_ofInput]
  by_cases hskip : (m.zspan.isSome && zs.all Option.isNone) = true
  · simp only [hskip, if_true, memberApply]
  · obtain ⟨Z, hZ, hZd⟩ := zIdx_val m xs zs (hz.trans hx.symm)
    obtain ⟨F, hF, hFd⟩ := failIdx_val m xs
    simp only [hskip, tcopy_tab, memberApply, hZ, hF]
    simp only [np, hx]
    apply tab_congr; intro i _
    simp only [overrides, List.foldl, hFd, hZd, outside, Bool.false_eq_true, if_false]
    rfl

theorem C08_src_climatology (periodOf : Period → Int → Int) (ms : List Member) (inp : List V) (ts : List Int) (z : List V)
    (ht : ts.length = inp.length) (hz : z.length = inp.length) :
    climatology_test periodOf ms inp ts z = climatologyTest periodOf ms inp ts z := by
  obtain ⟨T, rfl⟩ : ∃ T, ts = tab inp.length T := ⟨_, ht ▸ eq_tab ts 0⟩
  unfold climatology_test climatologyTest
  simp only [check_eq_foldl]
  have h0 : setWhere (fillFlags (emptyFlags (ofInput inp).length) .unknown) (maskOf (ofInput inp)) .missing
      = tab inp.length fun i => if (cellOf (getV inp i)).m then .missing else .unknown := by simp only [np]
  rw [h0, foldl_tab (fun m i a => memberApply m a (memberTime periodOf m (T i)) (getV inp i) (getV z i) (z.all Option.isNone))
    fun m f => climStep_tab periodOf m _ T inp z f rfl hz]
  simp only [np, exc]
  refine congrArg Except.ok (tab_congr fun i hi => ?_)
  rw [getD_tab _ _ hi]
  rfl

theorem seriesOf_ofInput (xs : List V) : seriesOf (ofInput xs) = xs := by
  rw [seriesOf, ofInput, List.map_map]
  exact (List.map_congr_left fun v _ => by cases v <;> rfl).trans (List.map_id xs)

/-- The five closing assignments.  The array of statistics is a variable `cv` with an equation: the caller computes its own to a
    tabulation and `rfl` finds `c`. -/
theorem atten_writes (xs : List V) (c : Nat → Stat) (sus fail : Rat) (cv : List Stat) (hcv : cv = tab xs.length c) :
    setWhere (setWhere (setWhere (setWhere (setWhere (List.replicate xs.length Flag.unknown) (statGe cv sus) .good)
      (statLt cv sus) .suspect) (statIsNan cv) .unknown) (statLt cv fail) .fail) (maskOf (ofInput xs)) .missing
      = tab xs.length fun i => attenAt (c i) sus fail (getV xs i) := by
  subst hcv
  simp only [np]
  rfl

theorem C12_src_atten (inp : List V) (ts : List Int) (sus fail : Rat) (period : Option Rat) (minObs : Option Nat)
    (minPeriod : Option Rat) (checkType : String) :
    attenuated_signal_test inp ts sus fail period minObs minPeriod checkType
      = attenuatedTest checkType inp ts sus fail period minObs minPeriod := by
  unfold attenuated_signal_test attenuatedTest
  by_cases hk : checkType = "std" ∨ checkType = "range"
  case neg =>
    obtain ⟨hs, hr⟩ := not_or.mp hk
    simp [hs, hr, exc]
  rcases hk with rfl | rfl
  all_goals
    by_cases h0 : inp.length = 0
    · have : inp = [] := List.eq_nil_of_length_eq_zero h0
      subst this
      cases period <;> simp [exc, ofInput]
    · cases period with
      | none =>
        simp [exc, h0, length_ofInput, map_eq_tab]
        exact atten_writes inp _ sus fail _ (by simp only [replicate_eq_tab, wholeApply, seriesOf_ofInput]; rfl)
      | some P =>
        cases minObs <;> cases minPeriod <;> simp [exc, h0, length_ofInput, map_range] <;>
          exact atten_writes inp _ sus fail _ (by simp only [rollingApply, map_range, length_ofInput, seriesOf_ofInput]; rfl)

end IoosQc.NpSrc
