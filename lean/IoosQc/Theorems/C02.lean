/-
  C02 — missing-data discipline.  A missing observation is flagged MISSING (or UNKNOWN where the
  test is undefined anyway: spike end points, speed's first point, a one-point density profile),
  and a present observation is flagged MISSING only if some other value the test needs at that
  position is missing — every test but `pressure_increasing_test`, all lengths, all placements.
  `inDom` is needed for `speed` (`C02_speed_counterexample`).
-/
import IoosQc.Lemmas.NormalForm
import IoosQc.Lemmas.Ladder
import IoosQc.Theorems.C08
import IoosQc.Theorems.C14

namespace IoosQc

/-- `hopsExact` (Props/Domain.lean: a hop distance is missing ONLY where one of the hop's four
    coordinates is) on `speed` calls. -/
def C02.speedHopsExact : TestCall → Bool
  | .speed lon lat _ _ _ hops => hopsExact lon lat hops
  | _ => true

def C02.notSpeed : TestCall → Bool
  | .speed _ _ _ _ _ _ => false
  | _ => true

theorem C02_holdsFrom_range' (c : TestCall) (g : Nat → Int) (n k : Nat)
    (h : ∀ i, k ≤ i → i < k + n → C02.holdsAt c i (g i) = true) :
    C02.holdsFrom c k ((List.range' k n).map g) = true := by
  induction n generalizing k with
  | zero => simp [C02.holdsFrom]
  | succ n ih =>
    simp only [List.range'_succ, List.map_cons, C02.holdsFrom, Bool.and_eq_true]
    exact ⟨h k (Nat.le_refl _) (by omega), ih (k + 1) (fun i h1 h2 => h i (by omega) (by omega))⟩

theorem C02_holds_range (c : TestCall) (n : Nat) (f : Nat → Flag)
    (h : ∀ i, i < n → C02.holdsAt c i ((f i).code : Int) = true) :
    C02.holds c (Res.toObs (.ok ((List.range n).map f))) = true := by
  simp only [C02.holds, Res.toObs, List.map_map, List.range_eq_range']
  exact C02_holdsFrom_range' c _ n 0 (fun i _ hi => h i (by omega))

theorem holdsAt_of (c : TestCall) (i : Nat) (g : Flag)
    (h1 : obsMissing c i = true → g = .missing ∨ (undefinedAt c i = true ∧ g = .unknown))
    (h2 : obsMissing c i = false → g = .missing → neededMissing c i = true) :
    C02.holdsAt c i (g.code : Int) = true := by
  unfold C02.holdsAt
  cases ho : obsMissing c i with
  | true => rcases h1 ho with rfl | ⟨hu, rfl⟩ <;> simp [Flag.code, *]
  | false => cases g <;> simp_all [Flag.code]

/-- The tests that flag MISSING exactly where the observation is missing. -/
theorem holdsAt_ladder_obs (c : TestCall) (i : Nat) {g : Flag} {u f s : Bool}
    (hg : g = ladder (obsMissing c i) u f s) : C02.holdsAt c i (g.code : Int) = true :=
  holdsAt_of c i _ (fun h => Or.inl (by rw [hg, h]; rfl))
    (fun h hm => by simp [hg, ladder_eq_missing, h] at hm)

theorem climatology_C02_at (periodOf : Period → Int → Int) (ms : List Member) (inp : List V)
    (t : List Int) (z : List V) (i : Nat) :
    C02.holdsAt (.climatology ms inp t z) i ((climFlagAt periodOf ms inp t z i).code : Int) = true := by
  apply holdsAt_of
  · intro ho
    exact Or.inl (climFlagAt_missing _ _ _ _ _ _ (Option.isNone_iff_eq_none.1 ho))
  · intro ho hm
    obtain ⟨v, hv⟩ := Option.isSome_iff_exists.1 (by simpa [obsMissing] using ho : (getV inp i).isSome = true)
    rw [climFlagAt_present _ _ _ _ _ _ v hv] at hm
    split at hm
    · cases hm
    · rw [classify_ladder, ladder_eq_missing] at hm
      cases hm

theorem spike_C02_at (meth : String) (m : SpikeMethod) (sus fail : Option Rat) (xs : List V)
    (i : Nat) (hi : i < xs.length) :
    C02.holdsAt (.spike meth sus fail xs) i ((spikeAt m sus fail xs i).code : Int) = true := by
  rw [spikeAt_ladder, ← Bool.decide_or]
  by_cases hend : i = 0 ∨ i + 1 = xs.length
  · -- an end point: UNKNOWN, or MISSING when the code's `diff` entry there is masked
    rw [decide_eq_true hend]
    apply holdsAt_of
    · intro _
      cases (spikeDiff m xs i).isNone
      · exact Or.inr ⟨by simpa [undefinedAt] using hend, rfl⟩
      · exact Or.inl rfl
    · intro ho hm
      simp only [obsMissing] at ho
      -- under the average method only, where the entry is the observation itself
      rw [ladder_eq_missing, spikeDiff_isNone_end m xs i hend] at hm
      cases m with
      | average => rw [ho] at hm; cases hm
      | differential => cases hm
  · rw [spikeDiff_isNone m xs i hend, decide_eq_false hend]
    apply holdsAt_of
    · intro ho
      simp only [obsMissing] at ho
      simp [ho]
    · intro ho hm
      simp only [obsMissing] at ho
      have h0 : 0 < i := by omega
      have hn : i + 1 < xs.length := by omega
      simpa [ladder_eq_missing, neededMissing, ho, h0, hn] using hm

theorem density_C02_at (sus fail : Option Rat) (rho z : List V) (i : Nat) :
    C02.holdsAt (.density rho z sus fail) i ((densAt sus fail rho z i).code : Int) = true := by
  rw [densAt_ladder]
  apply holdsAt_of
  · intro ho
    simp only [obsMissing] at ho
    exact Or.inl (by rw [recMissing, ho]; rfl)
  · intro ho hm
    simp only [obsMissing] at ho
    -- record `i` or `i - 1` is incomplete; `rho i` is present, so it is `z i` or record `i - 1`
    rw [ladder_eq_missing, recMissing, ho, Bool.false_or] at hm
    show ((getV z i).isNone || _ || _) = true
    rw [hm, Bool.true_or]

theorem speed_C02_at (sus fail : Rat) (lon lat : List V) (ts : List Int) (hops : List V) (i : Nat)
    (hn : i < lon.length) (hc : hopsConsistent lon lat hops = true) :
    C02.holdsAt (.speed lon lat ts sus fail hops) i
      ((speedAt sus fail lon lat ts hops i).code : Int) = true := by
  have hmiss := hopAt_none_of_consistent hc i
  rw [speedAt_ladder _ _ _ _ _ _ _ hmiss]
  apply holdsAt_of
  · intro ho
    rcases hmiss ho with rfl | h
    · exact .inr ⟨rfl, rfl⟩
    · exact .inl (by rw [h]; rfl)
  · intro _ hm
    rw [ladder_eq_missing] at hm
    cases i with
    | zero => cases hm
    | succ k =>
      have := hexact_of_consistent hc k hn (Option.isNone_iff_eq_none.1 hm)
      simp only [neededMissing, Nat.add_sub_cancel, Nat.zero_lt_succ, decide_true, Bool.true_and,
        Bool.or_eq_true]
      grind

/-- A one-point profile / track: UNKNOWN is admissible whether or not the point is missing. -/
theorem unknown_C02_at (c : TestCall) (i : Nat)
    (hu : obsMissing c i = true → undefinedAt c i = true) :
    C02.holdsAt c i ((Flag.unknown).code : Int) = true :=
  holdsAt_of c i _ (fun h => Or.inr ⟨hu h, rfl⟩) (fun _ h => by cases h)

/-- C02; the discipline at one position is `C02.holdsAt` (Props/C01C02.lean). -/
theorem C02_main (periodOf : Period → Int → Int) (c : TestCall)
    (ha : C02.applies c = true) (hd : c.inDom = true) :
    C02.holds c (c.run periodOf).toObs = true := by
  -- a statement about the flag function of an accepted call, proved along the parse
  suffices h : FlagRel (fun i a _ => i < c.size → C02.holdsAt c i (a.code : Int) = true)
      (c.flagAt periodOf) (c.flagAt periodOf) by
    cases hrun : c.run periodOf with
    | error e => rfl
    | ok fs =>
      obtain ⟨g, hg, rfl⟩ := (TestCall.run_ok_iff periodOf c fs).1 hrun
      obtain ⟨_, -, hgg⟩ := h g hg
      exact C02_holds_range c _ g hgg
  cases c <;> simp only [TestCall.flagAt]
  case gross f s inp =>
    refine .bind _ fun F => ?_
    cases s with
    | none => exact .pure fun i _ => holdsAt_ladder_obs _ i (grossAt_ladder ..)
    | some s =>
      exact .bind _ fun U => .guard _ _ (.pure fun i _ => holdsAt_ladder_obs _ i (grossAt_ladder ..))
  case valid lo hi si ei inp => exact .pure fun i _ => holdsAt_ladder_obs _ i (validAt_ladder ..)
  case location lon lat bbox r hops =>
    have hcons := hcons_of_consistent (location_inDom_hops hd)
    have hr := location_inDom_range hd
    exact .bind _ fun b => .guard _ _ (.pure fun i hlt => holdsAt_ladder_obs _ i
      (locationAt_ladder _ _ _ _ _ _ (hopOver_lacking r lon.length lon lat hops i hlt hr hcons)))
  case climatology ms inp t z => exact .pure fun i _ => climatology_C02_at periodOf ms inp t z i
  case spike meth s f inp => exact .bind _ fun m => .pure fun i hlt => spike_C02_at meth m s f inp i hlt
  case roc inp t thr => exact .guard _ _ (.pure fun i _ => holdsAt_ladder_obs _ i (rocAt_ladder ..))
  case flatLine inp t s f tol =>
    refine .pure fun i _ => ?_
    split
    · exact holdsAt_ladder_obs _ i (flatShort_ladder _)
    · exact holdsAt_ladder_obs _ i (flatAt_ladder ..)
  case attenuated ct inp t s f p mo mp =>
    refine .bind _ fun k => ?_
    cases p <;> exact .pure fun i _ => holdsAt_ladder_obs _ i (attenAt_ladder ..)
  case density rho z s f =>
    refine .guard _ _ (.pure fun i (hlt : i < rho.length) => ?_)
    split
    · exact unknown_C02_at _ i fun _ => beq_iff_eq.2 (by omega)
    · exact density_C02_at s f rho z i
  case pressure p => simp [C02.applies] at ha
  case speed lon lat t s f hops =>
    refine .guard _ _ (.pure fun i (hlt : i < lon.length) => ?_)
    split
    · exact unknown_C02_at _ i fun _ => beq_iff_eq.2 (by omega)
    · exact speed_C02_at s f lon lat t hops i hlt (speed_inDom_hops hd)

-- `hx` is not used: on `speed` calls it is a conjunct of `hd` (of `hopsConsistent`)
set_option linter.unusedVariables false in
theorem C02_main_of_exact (periodOf : Period → Int → Int) (c : TestCall)
    (ha : C02.applies c = true) (hd : c.inDom = true) (hx : C02.speedHopsExact c = true) :
    C02.holds c (c.run periodOf).toObs = true :=
  C02_main periodOf c ha hd

-- `hns` is not used: `C02_main` covers `speed` calls as well
set_option linter.unusedVariables false in
theorem C02_main_nonspeed (periodOf : Period → Int → Int) (c : TestCall)
    (ha : C02.applies c = true) (hd : c.inDom = true) (hns : C02.notSpeed c = true) :
    C02.holds c (c.run periodOf).toObs = true :=
  C02_main periodOf c ha hd

/-- `C02_main` fails outside the domain: on a two-point track with every coordinate present and
    the hop distance missing, the model — like the code when the geodesic routine returns NaN —
    flags the second point MISSING. -/
theorem C02_speed_counterexample :
    C02.applies (.speed [some 0, some 1] [some 0, some 1] [0, 1] 1 2 [none]) = true ∧
    (TestCall.speed [some 0, some 1] [some 0, some 1] [0, 1] 1 2 [none]).inDom = false ∧
    C02.speedHopsExact (.speed [some 0, some 1] [some 0, some 1] [0, 1] 1 2 [none]) = false ∧
    ((TestCall.speed [some 0, some 1] [some 0, some 1] [0, 1] 1 2 [none]).run (fun _ t => t)).toObs
      = .flags [2, 9] ∧
    C02.holds (.speed [some 0, some 1] [some 0, some 1] [0, 1] 1 2 [none])
      ((TestCall.speed [some 0, some 1] [some 0, some 1] [0, 1] 1 2 [none]).run (fun _ t => t)).toObs
      = false := by
  decide +kernel

/-- Coordinates missing at 0 and 3, hops missing exactly there; the hop 1 → 2 is too fast. -/
example :
    C02.applies (.speed [none, some 1, some 2, none, some 4] [none, some 1, some 2, none, some 4]
      [0, 1, 2, 3, 4] 1 2 [none, some 5, none, none]) = true ∧
    (TestCall.speed [none, some 1, some 2, none, some 4] [none, some 1, some 2, none, some 4]
      [0, 1, 2, 3, 4] 1 2 [none, some 5, none, none]).inDom = true ∧
    C02.speedHopsExact (.speed [none, some 1, some 2, none, some 4] [none, some 1, some 2, none, some 4]
      [0, 1, 2, 3, 4] 1 2 [none, some 5, none, none]) = true ∧
    ((TestCall.speed [none, some 1, some 2, none, some 4] [none, some 1, some 2, none, some 4]
      [0, 1, 2, 3, 4] 1 2 [none, some 5, none, none]).run (fun _ t => t)).toObs = .flags [2, 9, 4, 9, 9] := by
  decide +kernel

example : C02.holds (.speed [none, some 1, some 2, none, some 4] [none, some 1, some 2, none, some 4]
      [0, 1, 2, 3, 4] 1 2 [none, some 5, none, none])
    ((TestCall.speed [none, some 1, some 2, none, some 4] [none, some 1, some 2, none, some 4]
      [0, 1, 2, 3, 4] 1 2 [none, some 5, none, none]).run IoosQc.periodOf).toObs = true :=
  C02_main _ _ (by decide +kernel) (by decide +kernel)

example : C02.holds (.location [some 0, none, none, some 1] [some 0, some 3, none, some 1]
      ⟨true, [-10, -10, 10, 10]⟩ (some 6) [none, none, none])
    ((TestCall.location [some 0, none, none, some 1] [some 0, some 3, none, some 1]
      ⟨true, [-10, -10, 10, 10]⟩ (some 6) [none, none, none]).run IoosQc.periodOf).toObs = true :=
  C02_main_nonspeed _ _ (by decide +kernel) (by decide +kernel) (by decide +kernel)

/-- A missing end point is UNKNOWN; the present neighbours of a missing point are MISSING. -/
example :
    ((TestCall.spike "differential" (some 1) (some 2)
      [none, some 1, some 2, some 2, none, some 1]).run (fun _ t => t)).toObs = .flags [2, 9, 1, 9, 9, 2] ∧
    C02.holds (.spike "differential" (some 1) (some 2) [none, some 1, some 2, some 2, none, some 1])
      ((TestCall.spike "differential" (some 1) (some 2)
        [none, some 1, some 2, some 2, none, some 1]).run (fun _ t => t)).toObs = true := by
  decide +kernel

/-- `C02.holds` is not trivial: a missing point flagged GOOD violates it. -/
example : C02.holds (.gross ⟨true, [0, 4]⟩ none [some 1, none, some 5]) (.flags [1, 1, 4]) = false ∧
    C02.holds (.gross ⟨true, [0, 4]⟩ none [some 1, none, some 5]) (.flags [1, 9, 4]) = true ∧
    ((TestCall.gross ⟨true, [0, 4]⟩ none [some 1, none, some 5]).run (fun _ t => t)).toObs
      = .flags [1, 9, 4] := by
  decide +kernel

end IoosQc
