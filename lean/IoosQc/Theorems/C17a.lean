/-
  C17, invariance: flags ignore value offsets, sign, time offsets and joint data / span offsets,
  and reversing the series mirrors the spike flags; each an equality of model outputs (`Res`) for
  every input, malformed ones included.  The value transformations go through one lemma per test
  about a map `σ` on the values, used at `· + k` and at negation.  `C17_shift_atten` and
  `C17_shift_climatology` need `inp.length ≤ t.length` (the last two examples of the file).
-/
import IoosQc.Lemmas.Ladder
import IoosQc.Lemmas.NormalForm
import IoosQc.Lemmas.MinMax
import IoosQc.Props.C17

namespace IoosQc

theorem c17a_length_addAll (k : Rat) (xs : List V) : (addAll k xs).length = xs.length := by
  simp [addAll]

theorem c17a_getV_addAll (k : Rat) (xs : List V) (i : Nat) :
    getV (addAll k xs) i = vadd k (getV xs i) := getV_map_map _ xs i

theorem c17a_isNone_vadd (k : Rat) (x : V) : (vadd k x).isNone = x.isNone := by
  cases x <;> rfl

theorem c17a_length_shiftT (τ : Int) (ts : List Int) : (shiftT τ ts).length = ts.length := by
  simp [shiftT]

theorem c17a_getD_shiftT (τ : Int) (ts : List Int) (i : Nat) (h : i < ts.length) :
    (shiftT τ ts).getD i 0 = ts.getD i 0 + τ := by
  unfold shiftT
  rw [List.getD_eq_getElem?_getD, List.getD_eq_getElem?_getD, List.getElem?_map,
    List.getElem?_eq_getElem h]
  rfl

theorem c17a_diffs_shiftT (τ : Int) (ts : List Int) : diffs (shiftT τ ts) = diffs ts := by
  unfold diffs shiftT
  rw [← List.map_tail, List.zipWith_map]
  exact congrArg (List.zipWith · ts ts.tail) (funext fun a => funext fun b => Int.add_sub_add_right ..)

theorem c17a_medianStep_shiftT (τ : Int) (ts : List Int) : medianStep (shiftT τ ts) = medianStep ts := by
  unfold medianStep
  rw [c17a_diffs_shiftT]

theorem c17a_step_shiftT (τ : Int) (ts : List Int) (i : Nat) (hi : i < ts.length) :
    (shiftT τ ts).getD i 0 - (shiftT τ ts).getD (i - 1) 0 = ts.getD i 0 - ts.getD (i - 1) 0 := by
  rw [c17a_getD_shiftT τ ts i hi,
    c17a_getD_shiftT τ ts (i - 1) (Nat.lt_of_le_of_lt (Nat.sub_le i 1) hi), Int.add_sub_add_right]

theorem c17a_trailing_shiftT (τ : Int) (ts : List Int) (P : Rat) (i : Nat) (hi : i < ts.length) :
    trailing (shiftT τ ts) P i = trailing ts P i := by
  unfold trailing
  refine List.filter_congr fun j hj => ?_
  -- `t_i + τ - P < t_j + τ`, with the left side brought to `t_i - P + τ`
  rw [c17a_getD_shiftT τ ts i hi,
    c17a_getD_shiftT τ ts j (Nat.lt_of_lt_of_le (List.mem_range.1 hj) hi),
    Rat.intCast_add, Rat.intCast_add, Rat.sub_eq_add_neg, Rat.add_assoc, Rat.add_comm (τ : Rat),
    ← Rat.add_assoc, ← Rat.sub_eq_add_neg]
  simp only [Rat.add_lt_add_right]

theorem c17a_spikeMag_add (k : Rat) (m : SpikeMethod) (p x q : Rat) :
    spikeMag m (some (p + k)) (some (x + k)) (some (q + k)) = spikeMag m (some p) (some x) (some q) := by
  cases m
  · simp only [spikeMag]
    rw [show x + k - (p + k + (q + k)) / 2 = x - (p + q) / 2 by grind]
  · simp only [spikeMag, rat_add_sub_add_right]

theorem c17a_spikeMag_neg (m : SpikeMethod) (p x q : Rat) :
    spikeMag m (some (-p)) (some (-x)) (some (-q)) = spikeMag m (some p) (some x) (some q) := by
  cases m
  · simp only [spikeMag]
    rw [← Rat.neg_add, Rat.div_def, Rat.neg_mul, rat_neg_sub_neg, rabs_neg, Rat.div_def]
  · simp only [spikeMag, rat_neg_sub_neg, Rat.neg_mul, Rat.mul_neg, Rat.neg_neg, rabs_neg]

theorem c17a_spikeMag_symm (m : SpikeMethod) (p x q : V) :
    spikeMag m q x p = spikeMag m p x q := by
  cases p <;> cases x <;> cases q <;> try rfl
  rename_i p x q
  cases m
  · simp only [spikeMag, Rat.add_comm]
  · simp only [spikeMag]
    rw [← Rat.neg_sub q x, ← Rat.neg_sub x p, Rat.neg_mul, Rat.mul_neg, Rat.neg_neg, rabs_neg,
      rabs_neg, Rat.mul_comm, rmin_comm]

theorem c17a_spikeAt_map (σ : Rat → Rat)
    (hm : ∀ m (p x q : Rat),
      spikeMag m (some (σ p)) (some (σ x)) (some (σ q)) = spikeMag m (some p) (some x) (some q))
    (m : SpikeMethod) (sus fail : Option Rat) (xs : List V) (i : Nat) :
    spikeAt m sus fail (xs.map (Option.map σ)) i = spikeAt m sus fail xs i := by
  by_cases h : i = 0 ∨ i + 1 = xs.length
  · -- an end point: UNKNOWN unless MISSING, whatever the magnitude (which an offset does change)
    have hu : (decide (i = 0) || decide (i + 1 = xs.length)) = true := by simpa using h
    rw [spikeAt_ladder, spikeAt_ladder, List.length_map, hu,
      spikeDiff_isNone_end m _ i (by simpa using h), spikeDiff_isNone_end m xs i h,
      getV_map_map, Option.isNone_map]
    exact ladder_of_unknown ..
  · have hm' : ∀ p x q : V, spikeMag m (p.map σ) (x.map σ) (q.map σ) = spikeMag m p x q := by
      intro p x q
      cases p <;> cases x <;> cases q <;> first | rfl | exact hm ..
    unfold spikeAt spikeDiff
    simp only [List.length_map, h, if_false, getV_map_map, hm']

theorem c17a_spikeTest_map (σ : Rat → Rat)
    (hm : ∀ m (p x q : Rat),
      spikeMag m (some (σ p)) (some (σ x)) (some (σ q)) = spikeMag m (some p) (some x) (some q))
    (m : String) (s fl : Option Rat) (inp : List V) :
    spikeTest m s fl (inp.map (Option.map σ)) = spikeTest m s fl inp := by
  unfold spikeTest
  split
  · rfl
  · next m' _ =>
    rw [List.length_map, funext (c17a_spikeAt_map σ hm m' s fl inp)]

theorem C17_add_spike (k : Rat) (m s f inp) : spikeTest m s f (addAll k inp) = spikeTest m s f inp :=
  c17a_spikeTest_map (· + k) (c17a_spikeMag_add k) m s f inp

theorem C17_neg_spike (m s f inp) : spikeTest m s f (negAll inp) = spikeTest m s f inp :=
  c17a_spikeTest_map (fun v => -v) c17a_spikeMag_neg m s f inp

theorem c17a_rocTest_map (σ : Rat → Rat)
    (hσ : ∀ a b d : Rat, rabs ((σ b - σ a) / d) = rabs ((b - a) / d)) (inp t thr) :
    rocTest (inp.map (Option.map σ)) t thr = rocTest inp t thr := by
  have hr : ∀ i, rocRate (inp.map (Option.map σ)) t i = rocRate inp t i := by
    intro i
    unfold rocRate
    rw [getV_map_map, getV_map_map]
    cases getV inp (i - 1) <;> cases getV inp i <;> try rfl
    simp only [Option.map_some, hσ]
  unfold rocTest rocAt
  simp only [List.length_map, hr, getV_map_map, Option.isNone_map]

theorem C17_add_roc (k : Rat) (inp t thr) : rocTest (addAll k inp) t thr = rocTest inp t thr :=
  c17a_rocTest_map (· + k) (fun a b d => by rw [rat_add_sub_add_right]) inp t thr

theorem C17_neg_roc (inp t thr) : rocTest (negAll inp) t thr = rocTest inp t thr :=
  c17a_rocTest_map (fun v => -v)
    (fun a b d => by rw [rat_neg_sub_neg, Rat.div_def, Rat.neg_mul, rabs_neg, Rat.div_def])
    inp t thr

theorem C17_shift_roc (τ : Int) (inp t thr) : rocTest inp (shiftT τ t) thr = rocTest inp t thr := by
  unfold rocTest
  rw [c17a_length_shiftT]
  split
  · rfl
  · next hl =>
    rw [bne_iff_ne, Decidable.not_not] at hl
    refine congrArg Except.ok (List.map_congr_left fun i hi => ?_)
    unfold rocAt rocRate
    rw [c17a_step_shiftT τ t i (hl ▸ List.mem_range.1 hi)]

theorem c17a_flatLineTest_map (σ : Rat → Rat) (hsp : ∀ l, spread (l.map σ) = spread l)
    (inp t s f tol) :
    flatLineTest (inp.map (Option.map σ)) t s f tol = flatLineTest inp t s f tol := by
  have hh : ∀ n i, flatHit (inp.map (Option.map σ)) n tol i = flatHit inp n tol i := by
    intro n i
    unfold flatHit
    rw [windowEnding_map, present_map, hsp]
  unfold flatLineTest flatAt
  simp only [List.length_map, hh, getV_map_map, Option.isNone_map, List.map_map,
    Function.comp_def]

theorem C17_add_flat (k : Rat) (inp t s f tol) :
    flatLineTest (addAll k inp) t s f tol = flatLineTest inp t s f tol :=
  c17a_flatLineTest_map (· + k) (spread_add k) inp t s f tol

theorem C17_neg_flat (inp t s f tol) :
    flatLineTest (negAll inp) t s f tol = flatLineTest inp t s f tol :=
  c17a_flatLineTest_map (fun v => -v) spread_neg inp t s f tol

theorem C17_shift_flat (τ : Int) (inp t s f tol) :
    flatLineTest inp (shiftT τ t) s f tol = flatLineTest inp t s f tol := by
  unfold flatLineTest
  rw [c17a_medianStep_shiftT]

theorem c17a_sqDev_add (k : Rat) (l : List Rat) : sqDev (l.map (· + k)) = sqDev l := by
  cases hl : l with
  | nil => rfl
  | cons x xs =>
    rw [← hl]
    have hne : (l.length : Rat) ≠ 0 := mt Rat.natCast_eq_zero_iff.1 (by rw [hl]; simp)
    unfold sqDev
    simp only [List.length_map, rsum_map_add, List.map_map, Function.comp_def]
    generalize (l.length : Rat) = d at hne
    rw [show (rsum l + d * k) / d = rsum l / d + k by grind]
    simp only [rat_add_sub_add_right]

theorem c17a_sqDev_neg (l : List Rat) : sqDev (l.map (fun v => -v)) = sqDev l := by
  unfold sqDev
  simp only [List.length_map, rsum_map_neg, List.map_map, Function.comp_def, Rat.div_def,
    Rat.neg_mul, rat_neg_sub_neg, Rat.mul_neg, Rat.neg_neg]

theorem c17a_attenuatedTest_map (σ : Rat → Rat) (hsp : ∀ l, spread (l.map σ) = spread l)
    (hsq : ∀ l, sqDev (l.map σ) = sqDev l) (ct inp t s f p mo mp) :
    attenuatedTest ct (inp.map (Option.map σ)) t s f p mo mp
      = attenuatedTest ct inp t s f p mo mp := by
  have hw : ∀ c, wholeStat c (inp.map (Option.map σ)) = wholeStat c inp := by
    intro c
    unfold wholeStat
    simp only [present_map, List.isEmpty_map, List.length_map, hsq, hsp]
  have hwin : ∀ c m P i, windowStat c m (inp.map (Option.map σ)) t P i = windowStat c m inp t P i := by
    intro c m P i
    unfold windowStat
    rw [show getV (inp.map (Option.map σ)) = Option.map σ ∘ getV inp from
      funext (getV_map_map σ inp), ← List.map_map]
    simp only [present_map, List.length_map, hsq, hsp]
  have ha : ∀ st (x : V), attenAt st s f (x.map σ) = attenAt st s f x := by
    intro st x
    unfold attenAt
    rw [Option.isNone_map]
  unfold attenuatedTest
  simp only [hw, hwin, List.length_map, List.map_map, Function.comp_def, ha, getV_map_map]

theorem C17_add_atten (k : Rat) (ct inp t s f p mo mp) :
    attenuatedTest ct (addAll k inp) t s f p mo mp = attenuatedTest ct inp t s f p mo mp :=
  c17a_attenuatedTest_map (· + k) (spread_add k) (c17a_sqDev_add k) ct inp t s f p mo mp

theorem C17_neg_atten (ct inp t s f p mo mp) :
    attenuatedTest ct (negAll inp) t s f p mo mp = attenuatedTest ct inp t s f p mo mp :=
  c17a_attenuatedTest_map (fun v => -v) spread_neg c17a_sqDev_neg ct inp t s f p mo mp

theorem C17_shift_atten (τ : Int) (ct inp t s f p mo mp) (hl : inp.length ≤ t.length) :
    attenuatedTest ct inp (shiftT τ t) s f p mo mp = attenuatedTest ct inp t s f p mo mp := by
  unfold attenuatedTest
  split
  · rfl
  · cases p with
    | none => rfl
    | some P =>
      refine congrArg Except.ok (List.map_congr_left fun i hi => ?_)
      unfold attenMinp windowStat
      rw [c17a_medianStep_shiftT,
        c17a_trailing_shiftT τ t P i (Nat.lt_of_lt_of_le (List.mem_range.1 hi) hl)]

/-- Without a rolling window (`p = none`) the time axis is not read. -/
theorem C17_shift_atten_whole (τ : Int) (ct inp t s f mo mp) :
    attenuatedTest ct inp (shiftT τ t) s f none mo mp = attenuatedTest ct inp t s f none mo mp := by
  unfold attenuatedTest
  split <;> rfl

theorem c17a_densDelta_add (k : Rat) (rho z : List V) (j : Nat) :
    densDelta (addAll k rho) z j = densDelta rho z j := by
  unfold densDelta
  rw [c17a_getV_addAll, c17a_getV_addAll]
  cases getV rho j <;> cases getV rho (j + 1) <;> try rfl
  cases getV z j <;> cases getV z (j + 1) <;> try rfl
  simp only [vadd, Option.map_some, rat_add_sub_add_right]

theorem C17_add_density (k : Rat) (rho z s f) :
    densityTest (addAll k rho) z s f = densityTest rho z s f := by
  unfold densityTest densAt densPairBelow recMissing
  simp only [c17a_length_addAll, c17a_densDelta_add, c17a_getV_addAll, c17a_isNone_vadd]

theorem C17_shift_speed (τ : Int) (lon lat t s f h) :
    speedTest lon lat (shiftT τ t) s f h = speedTest lon lat t s f h := by
  -- the test takes no calendar: `speedTest …` is `(TestCall.speed …).run p` by definition for
  -- any `p`; a dummy is passed
  have e := fun t => TestCall.run_eq (fun _ t => t) (.speed lon lat t s f h)
  simp only [TestCall.run, TestCall.flagAt, TestCall.size] at e
  rw [e, e, c17a_length_shiftT]
  split
  · rfl
  · next hl =>
    simp only [Bool.or_eq_true, bne_iff_ne, not_or, Decidable.not_not] at hl
    refine congrArg Except.ok (List.map_congr_left fun i hi => ?_)
    split
    · rfl
    · unfold speedAt
      rw [c17a_step_shiftT τ t i (hl.2 ▸ List.mem_range.1 hi)]

theorem c17a_memberApply_shift (τ t : Int) (m : Member) (acc : Flag) (x z : V) (nd : Bool) :
    memberApply (shiftMember τ m) acc ((t + τ : Int) : Rat) x z nd
      = memberApply m acc (t : Rat) x z nd := by
  unfold memberApply memberMatches shiftMember inside
  simp only [Rat.intCast_add, Rat.add_le_add_right]

theorem c17a_climAt_shift (periodOf : Period → Int → Int) (τ : Int) (ms : List Member) (nd : Bool)
    (t : Int) (x z : V) (hp : ∀ m ∈ ms, m.period = none) :
    climAt periodOf (ms.map (shiftMember τ)) nd (t + τ) x z = climAt periodOf ms nd t x z := by
  unfold climAt
  dsimp only
  rw [List.foldl_map]
  refine congrArg (overrides · _) (foldl_congr_mem _ _ ms (fun m hm acc => ?_) _)
  rw [show (shiftMember τ m).period = none from hp m hm, hp m hm]
  exact c17a_memberApply_shift τ t m acc x z nd

/-- `hp`: `applyT` shifts a climatology only when no member has a calendar period. -/
theorem C17_shift_climatology (periodOf) (τ : Int) (ms inp t z)
    (hp : ms.all (fun m => m.period.isNone) = true) (hl : inp.length ≤ t.length) :
    climatologyTest periodOf (ms.map (shiftMember τ)) inp (shiftT τ t) z
      = climatologyTest periodOf ms inp t z := by
  have hp' : ∀ m ∈ ms, m.period = none := fun m hm => by
    simpa using List.all_eq_true.1 hp m hm
  refine congrArg Except.ok (List.map_congr_left fun i hi => ?_)
  rw [c17a_getD_shiftT τ t i (Nat.lt_of_lt_of_le (List.mem_range.1 hi) hl),
    c17a_climAt_shift periodOf τ ms _ _ _ _ hp']

theorem c17a_sort2_add (a b k : Rat) :
    sort2 (a + k) (b + k) = ((sort2 a b).1 + k, (sort2 a b).2 + k) := by
  unfold sort2
  simp only [Rat.add_le_add_right]
  split <;> rfl

theorem c17a_cmp_shift (k : Rat) (x : V) (l : Rat) :
    vlt (vadd k x) (l + k) = vlt x l ∧ vle (vadd k x) (l + k) = vle x l ∧
      vgt (vadd k x) (l + k) = vgt x l ∧ vge (vadd k x) (l + k) = vge x l := by
  cases x <;> simp only [vadd, Option.map_some, Option.map_none, vlt, vle, vgt, vge,
    Rat.add_lt_add_right, Rat.add_le_add_right, and_self]

theorem c17a_outside_shift (k : Rat) (x : V) (s : Rat × Rat) :
    outside (vadd k x) (s.1 + k, s.2 + k) = outside x s := by
  simp only [outside, c17a_cmp_shift]

theorem c17a_span_shift (k : Rat) (a : SeqArg) :
    (shiftSeq k a).span = a.span.map fun u => (u.1 + k, u.2 + k) := by
  obtain ⟨q, v⟩ := a
  cases q
  · rfl
  · rcases v with _ | ⟨a, _ | ⟨b, _ | ⟨c, rest⟩⟩⟩ <;> try rfl
    exact congrArg Except.ok (c17a_sort2_add a b k)

theorem C17_both_gross (k : Rat) (f s inp) :
    grossRange (shiftSeq k f) (s.map (shiftSeq k)) (addAll k inp) = grossRange f s inp := by
  refine TestCall.run_congr (fun _ t => t) (c := .gross f s inp)
    (c' := .gross (shiftSeq k f) (s.map (shiftSeq k)) (addAll k inp)) (c17a_length_addAll k inp) ?_
  simp only [TestCall.flagAt, c17a_span_shift]
  cases f.span with
  | error e => simp only [map_error, error_bind]
  | ok u =>
    cases s with
    | none =>
      simp only [Option.map_none, map_ok, ok_bind, c17a_getV_addAll, grossAt_ladder,
        c17a_isNone_vadd, c17a_outside_shift, Option.any_none]
    | some a =>
      simp only [Option.map_some, c17a_span_shift]
      cases a.span with
      | error e => simp only [map_ok, map_error, ok_bind, error_bind]
      | ok w =>
        simp only [map_ok, ok_bind, Rat.add_lt_add_right, c17a_getV_addAll, grossAt_ladder,
          c17a_isNone_vadd, c17a_outside_shift, Option.any_some]

theorem c17a_validAt_shift (k : Rat) (lo hi : V) (si ei : Bool) (x : V) :
    validAt (vadd k lo) (vadd k hi) si ei (vadd k x) = validAt lo hi si ei x := by
  have e : ∀ l : Rat, vadd k (some l) = some (l + k) := fun _ => rfl
  unfold validAt
  cases lo <;> cases hi <;>
    simp only [e, show vadd k none = none from rfl, c17a_cmp_shift, c17a_isNone_vadd]

theorem C17_both_valid (k : Rat) (lo hi si ei inp) :
    validRange (vadd k lo) (vadd k hi) si ei (addAll k inp) = validRange lo hi si ei inp := by
  unfold validRange addAll
  rw [List.map_map]
  exact congrArg Except.ok (List.map_congr_left fun x _ => c17a_validAt_shift k lo hi si ei x)

theorem c17a_spikeDiff_reverse (m : SpikeMethod) (xs : List V) (i j : Nat)
    (h : i + j + 1 = xs.length) : spikeDiff m xs.reverse i = spikeDiff m xs j := by
  unfold spikeDiff
  rw [List.length_reverse, getV_mirror xs h]
  by_cases hi : i = 0 ∨ i + 1 = xs.length
  · rw [if_pos hi, if_pos (by omega)]
  · -- an interior point mirrors to an interior point, its neighbours to the neighbours, swapped
    obtain ⟨hj, h1, h2⟩ : ¬ (j = 0 ∨ j + 1 = xs.length) ∧ i - 1 + (j + 1) + 1 = xs.length ∧
        i + 1 + (j - 1) + 1 = xs.length := by omega
    rw [if_neg hi, if_neg hj, getV_mirror xs h1, getV_mirror xs h2, c17a_spikeMag_symm]

theorem c17a_spikeAt_reverse (m : SpikeMethod) (sus fail : Option Rat) (xs : List V) (i j : Nat)
    (h : i + j + 1 = xs.length) : spikeAt m sus fail xs.reverse i = spikeAt m sus fail xs j := by
  rw [spikeAt_ladder, spikeAt_ladder, c17a_spikeDiff_reverse m xs i j h, List.length_reverse,
    ← Bool.decide_or, ← Bool.decide_or]
  congr 1
  exact decide_eq_decide.2 (by omega)

theorem C17_reverse_spike (m s f inp) :
    spikeTest m s f inp.reverse = (spikeTest m s f inp).map List.reverse := by
  unfold spikeTest
  split
  · rfl
  · next m' _ =>
    rw [List.length_reverse]
    exact congrArg Except.ok (map_range_mirror _ _ _ (c17a_spikeAt_reverse m' s f inp))

example :
    (spikeTest "average" (some 1) (some 3)
      [some 0, some 5, some 0, some 1, none, some 2, some 4, some 2]).toObs
      = .flags [2, 4, 3, 9, 9, 9, 3, 2] ∧
    (spikeTest "average" (some 1) (some 3)
      [some 0, some 5, some 0, some 1, none, some 2, some 4, some 2].reverse).toObs
      = .flags [2, 3, 9, 9, 9, 3, 4, 2] := by
  decide +kernel

example :
    (spikeTest "differential" (some 1) (some 3)
      (addAll 7 [some 0, some 5, some 0, some 1, none, some 2, some 4, some 2])).toObs
      = .flags [2, 4, 1, 9, 9, 9, 3, 2] ∧
    (spikeTest "differential" (some 1) (some 3)
      (negAll [some 0, some 5, some 0, some 1, none, some 2, some 4, some 2])).toObs
      = .flags [2, 4, 1, 9, 9, 9, 3, 2] := by
  decide +kernel

example :
    (grossRange (shiftSeq 100 ⟨true, [0, 10]⟩) ((some ⟨true, [2, 8]⟩).map (shiftSeq 100))
      (addAll 100 [some (-1), some 1, some 5, none, some 9, some 11])).toObs
      = .flags [4, 3, 1, 9, 3, 4] := by
  decide +kernel

/-- `C17_shift_atten` needs `hl`: beyond the end of a time axis shorter than the data the model
    reads `0`, which the shift does not move, so the last point's trailing window changes. -/
example :
    (attenuatedTest "std" [some 1, some 5] [0] 1 1 (some 5) (some 1) none).toObs = .flags [2, 1] ∧
    (attenuatedTest "std" [some 1, some 5] (shiftT (-10) [0]) 1 1 (some 5) (some 1) none).toObs
      = .flags [2, 2] := by
  decide +kernel

/-- `C17_shift_climatology` needs `hl`: the time read beyond the end of the axis stays `0` while
    the member's time span moves. -/
example :
    (climatologyTest (fun _ t => t) [⟨(0, 10), (0, 1), none, none, none⟩]
      [some 5, some 5] [3] []).toObs = .flags [3, 3] ∧
    (climatologyTest (fun _ t => t) ([⟨(0, 10), (0, 1), none, none, none⟩].map (shiftMember 100))
      [some 5, some 5] (shiftT 100 [3]) []).toObs = .flags [3, 2] := by
  decide +kernel

end IoosQc
