/-
  C01 — every test is total on valid parameters (`TestCall.validParams`: the property spec does not
  reject): it returns, without raising, one flag per input element, each one of 1, 2, 3, 4, 9 — for
  every series length (0, 1, 2 included) and every placement of missing values.  Length and
  alphabet hold for every successful run, whatever the parameters.
-/
import IoosQc.Lemmas.NormalForm
import IoosQc.Theorems.C03
import IoosQc.Theorems.C09
import IoosQc.Theorems.C12
import IoosQc.Theorems.C13

namespace IoosQc

theorem C01_length (periodOf : Period → Int → Int) (c : TestCall) (fs : List Flag)
    (h : c.run periodOf = .ok fs) : fs.length = c.size := by
  obtain ⟨g, _, rfl⟩ := (TestCall.run_ok_iff periodOf c fs).1 h
  simp

-- `periodOf`, `c`, `h` are not used: every `Flag` has one of the five codes
set_option linter.unusedVariables false in
theorem C01_alphabet (periodOf : Period → Int → Int) (c : TestCall) (fs : List Flag)
    (h : c.run periodOf = .ok fs) : ∀ f ∈ fs, isFlagCode (f.code : Int) = true :=
  fun f _ => Flag.isFlagCode_code f

/-- C01 (determinism) is trivial of a function; that the *code* is deterministic and pure is
    observed by the harness (DESIGN.md). -/
theorem C01_deterministic (periodOf : Period → Int → Int) (c : TestCall) :
    c.run periodOf = c.run periodOf := rfl

theorem ok_of_conforms (s : SpecOut) (r : Res)
    (hs : (match s with | .reject _ => false | .flags _ => true) = true)
    (h : conforms s r.toObs = true) : ∃ fs, r = .ok fs := by
  cases r with
  | ok fs => exact ⟨fs, rfl⟩
  | error e => cases s <;> simp [conforms, Res.toObs] at hs h

/-- The model raises only where the spec rejects: length mismatch (density, location, rate of
    change, speed), malformed spans or suspect ⊄ fail (gross range), unknown method (spike),
    unknown check type (attenuated signal), malformed bounding box (location). -/
theorem C01_run_ok (periodOf : Period → Int → Int) (c : TestCall)
    (h : c.validParams periodOf = true) : ∃ fs, c.run periodOf = .ok fs := by
  unfold TestCall.validParams at h
  -- gross, spike, attenuated, density: conformance holds on every call (C03, C09, C12, C13), and
  -- a run that conforms to a spec that does not reject has returned.  `C14_location`, `C10_roc`,
  -- `C10_speed` need `inDom`, which `validParams` does not give: those three are done by hand.
  cases c with
  | gross f s inp => exact ok_of_conforms _ _ h (C03_gross f s inp)
  | valid lo hi si ei inp => exact ⟨_, rfl⟩
  | location lon lat b r hp =>
    rw [TestCall.run_eq]
    revert h
    refine b.box_rel (fun s r => (match s with | .reject _ => false | .flags _ => true) = true →
      ∃ fs, r = .ok fs) (fun _ h => by cases h) _ _ _ fun x0 y0 x1 y1 => ?_
    by_cases hl : (lon.length != lat.length) = true
    · rw [if_pos hl]
      exact fun h => by cases h
    · rw [if_neg hl, if_neg hl]
      exact fun _ => ⟨_, rfl⟩
  | climatology ms inp t z => exact ⟨_, rfl⟩
  | spike m s f inp => exact ok_of_conforms _ _ h (C09_spike m s f inp)
  | roc inp t thr =>
    simp only [TestCall.spec, rocSpec] at h
    by_cases hl : (inp.length != t.length) = true
    · rw [if_pos hl] at h
      cases h
    · exact ⟨_, if_neg hl⟩
  | flatLine inp t s f tol => exact ⟨_, TestCall.run_eq periodOf _⟩
  | attenuated ct inp t s f p mo mp => exact ok_of_conforms _ _ h (C12_atten ct inp t s f p mo mp)
  | density rho z s f => exact ok_of_conforms _ _ h (C13_density rho z s f)
  | pressure p => exact ⟨_, rfl⟩
  | speed lon lat t s f hp =>
    simp only [TestCall.spec, speedSpec] at h
    by_cases hl : (lon.length != lat.length || lon.length != t.length) = true
    · rw [if_pos hl] at h
      cases h
    · rw [TestCall.run_eq, TestCall.flagAt, if_neg hl]
      exact ⟨_, rfl⟩

/-- C01 on the model: `C01.holds c o` says that `o` is a list of `c.size` flag codes. -/
theorem C01_total (periodOf : Period → Int → Int) (c : TestCall)
    (h : c.validParams periodOf = true) : C01.holds c (c.run periodOf).toObs = true := by
  obtain ⟨fs, hfs⟩ := C01_run_ok periodOf c h
  have hlen := C01_length periodOf c fs hfs
  rw [hfs]
  simp only [C01.holds, Res.toObs, List.length_map, Bool.and_eq_true, beq_iff_eq, List.all_eq_true]
  exact ⟨hlen, List.forall_mem_map.2 (C01_alphabet periodOf c fs hfs)⟩

/-- `validParams` cannot be dropped: on an unknown spike method the model raises. -/
example : (TestCall.spike "median" none none [some 1]).validParams (fun _ t => t) = false ∧
    C01.holds (.spike "median" none none [some 1])
      ((TestCall.spike "median" none none [some 1]).run (fun _ t => t)).toObs = false := by
  decide +kernel

example : (TestCall.spike "average" (some 1) (some 2)
      [some 1, none, some 5, some 1, none]).validParams (fun _ t => t) = true ∧
    ((TestCall.spike "average" (some 1) (some 2)
      [some 1, none, some 5, some 1, none]).run (fun _ t => t)).toObs = .flags [2, 9, 9, 9, 9] ∧
    C01.holds (.spike "average" (some 1) (some 2) [some 1, none, some 5, some 1, none])
      ((TestCall.spike "average" (some 1) (some 2)
        [some 1, none, some 5, some 1, none]).run (fun _ t => t)).toObs = true := by
  decide +kernel

example :
    C01.holds (.density [] [] (some 1) none)
      ((TestCall.density [] [] (some 1) none).run (fun _ t => t)).toObs = true ∧
    C01.holds (.density [none] [some 1] (some 1) none)
      ((TestCall.density [none] [some 1] (some 1) none).run (fun _ t => t)).toObs = true ∧
    C01.holds (.density [some 1, none] [none, some 2] (some 1) (some 2))
      ((TestCall.density [some 1, none] [none, some 2] (some 1) (some 2)).run (fun _ t => t)).toObs = true ∧
    C01.holds (.speed [none] [none] [0] 1 2 [])
      ((TestCall.speed [none] [none] [0] 1 2 []).run (fun _ t => t)).toObs = true ∧
    C01.holds (.speed [some 0, none] [some 0, none] [0, 1] 1 2 [none])
      ((TestCall.speed [some 0, none] [some 0, none] [0, 1] 1 2 [none]).run (fun _ t => t)).toObs = true := by
  decide +kernel

end IoosQc
