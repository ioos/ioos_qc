/-
  C11 — flat_line_test flags a point when the last ⌊threshold / step⌋ + 1 points stayed within
  the tolerance.  The model (median time step through `Array.qsort`, integer floor division of the
  truncated threshold, |max − min| of the present window values, numpy-style overrides) conforms
  on every call.  On a regular axis (constant step D ≥ 1) the property names the flag; on any
  other it only asks for GOOD / SUSPECT / FAIL at a present point.
-/
import IoosQc.Lemmas.C11Helpers
import IoosQc.Lemmas.NormalForm

namespace IoosQc

/-- `h`: on a regular axis (`reg = some D`) the counts are the `⌊threshold / D⌋` of the property. -/
theorem flatAt_spec (reg : Option Int) (sus fail tol : Rat) (xs : List V) (i : Nat) (ks kf : Nat)
    (h : ∀ D, reg = some D →
      ks = ((sus / (D : Rat)).floor).toNat ∧ kf = ((fail / (D : Rat)).floor).toNat)
    (hn : ¬ xs.length < 3) :
    flatAt ks kf tol xs i ∈ flatSpecAt reg sus fail tol xs i := by
  have key : ∀ f s : Bool, ladder false false f s ∈ [Flag.good, Flag.suspect, Flag.fail] := by decide
  rw [flatAt_ladder, flatHit_eq, flatHit_eq]
  unfold flatSpecAt
  cases getV xs i with
  | none => simp
  | some v =>
    rw [if_neg hn]
    cases reg with
    | none => exact key _ _
    | some D =>
      obtain ⟨rfl, rfl⟩ := h D rfl
      exact ladder_mem false false _ _

theorem C11_counts (ts : List Int) (D : Int) (rest : List Int) (thr : Rat)
    (hd : diffs ts = D :: rest) (hr : regularStep ts D = true) (hD : 1 ≤ D) :
    flatCount thr (medianStep ts) = ((thr / (D : Rat)).floor).toNat := by
  rw [medianStep_regular ts D rest hd hr, flatCount_eq thr D hD]

-- `h` is not used: the model conforms on every call
set_option linter.unusedVariables false in
/-- C11: on a regularly sampled series (step D ≥ 1 s) a present point n is FAIL iff
    n ≥ k_f = ⌊fail/D⌋ and max − min of the present values among the k_f + 1 points ending at n is
    below the tolerance, else SUSPECT likewise with k_s, else GOOD; missing ⇒ MISSING; fewer than
    3 points ⇒ never SUSPECT / FAIL. -/
theorem C11_flat (inp : List V) (ts : List Int) (sus fail tol : Rat)
    (h : (TestCall.flatLine inp ts sus fail tol).inDom = true) :
    conforms (flatSpec inp ts sus fail tol) (flatLineTest inp ts sus fail tol).toObs = true := by
  -- any calendar will do (`TestCall.run_eq`)
  have hrun := TestCall.run_eq (fun _ t => t) (.flatLine inp ts sus fail tol)
  simp only [TestCall.run, TestCall.flagAt, TestCall.size] at hrun
  rw [hrun]
  refine conforms_flags_range _ _ _ fun i _ => ?_
  by_cases hn : inp.length < 3
  · rw [if_pos hn, flatShort_ladder]
    unfold flatSpecAt
    cases getV inp i <;> simp [hn]
  · rw [if_neg hn]
    refine flatAt_spec _ sus fail tol inp i _ _ (fun D hD => ?_) hn
    -- a regular axis: the median step is the step
    cases hd : diffs ts with
    | nil => simp [hd] at hD
    | cons D' rest =>
      simp only [hd] at hD
      split at hD <;> cases hD
      next hreg =>
        simp only [Bool.and_eq_true, decide_eq_true_eq] at hreg
        exact ⟨C11_counts ts D rest sus hd hreg.1 hreg.2, C11_counts ts D rest fail hd hreg.1 hreg.2⟩

theorem C11_short (inp : List V) (ts : List Int) (sus fail tol : Rat) (hn : inp.length < 3) :
    flatLineTest inp ts sus fail tol =
      .ok (inp.map fun x => match x with | some _ => Flag.good | none => Flag.missing) := by
  simp only [flatLineTest, if_pos hn]
  exact congrArg Except.ok (List.map_congr_left fun x _ => by cases x <;> rfl)

theorem C11_fail_over_suspect (ks kf : Nat) (tol : Rat) (xs : List V) (i : Nat) (v : Rat)
    (hv : getV xs i = some v) (hf : flatWindowBelow xs kf tol i = true) :
    flatAt ks kf tol xs i = .fail := by
  simp [flatAt_ladder, flatHit_eq, hv, hf]

theorem C11_suspect_iff (ks kf : Nat) (tol : Rat) (xs : List V) (i : Nat) (v : Rat)
    (hv : getV xs i = some v) :
    flatAt ks kf tol xs i = .suspect ↔
      (flatWindowBelow xs ks tol i = true ∧ flatWindowBelow xs kf tol i = false) := by
  simp [flatAt_ladder, ladder_eq_suspect, flatHit_eq, hv, and_comm]

theorem C11_missing (ks kf : Nat) (tol : Rat) (xs : List V) (i : Nat) (hv : getV xs i = none) :
    flatAt ks kf tol xs i = .missing := by
  simp [flatAt_ladder, hv]

/-- A tolerance equal to the range of the window does not flag. -/
theorem C11_tolerance_equal_no_hit (xs : List V) (k i : Nat) (v : Rat) (vs : List Rat)
    (hw : present (windowEnding xs i k) = v :: vs) :
    flatHit xs k (vs.foldl rmax v - vs.foldl rmin v) i = false := by
  rw [flatHit_eq]
  unfold flatWindowBelow
  simp [hw]

theorem C11_all_missing_no_hit (xs : List V) (k i : Nat) (tol : Rat)
    (hw : ∀ x ∈ windowEnding xs i k, x = none) : flatHit xs k tol i = false := by
  have hp : present (windowEnding xs i k) = [] := by
    unfold present
    rw [List.filterMap_eq_nil_iff]
    intro x hx
    simp [hw x hx]
  unfold flatHit
  simp [hp, spread, lmax]

theorem C11_early_no_hit (xs : List V) (k i : Nat) (tol : Rat) (hi : i < k) :
    flatHit xs k tol i = false := by
  unfold flatHit
  have : ¬ k ≤ i := by omega
  simp [this]

/-- One-minute sampling: SUSPECT after 2 min (3 points), FAIL after 3 min (4 points). -/
example : (flatLineTest
    [some 1, some 1, some 1, some 1, some 1, some 2, some 2, some 2, some 2, some 5, some 5]
    [0, 60, 120, 180, 240, 300, 360, 420, 480, 540, 600] 120 180 (1/2)).toObs
    = .flags [1, 1, 3, 4, 4, 1, 1, 3, 4, 1, 1] := by
  -- the kernel is stuck on `Array.qsort` (well-founded recursion): `medianStep_regular` supplies
  -- the median, the rest is computed
  have hm : medianStep [0, 60, 120, 180, 240, 300, 360, 420, 480, 540, 600] = 60 :=
    medianStep_regular _ 60 (List.replicate 9 60) (by decide +kernel) (by decide +kernel)
  unfold flatLineTest
  simp only [hm]
  decide +kernel

example : (match flatSpec
    [some 1, some 1, some 1, some 1, some 1, some 2, some 2, some 2, some 2, some 5, some 5]
    [0, 60, 120, 180, 240, 300, 360, 420, 480, 540, 600] 120 180 (1/2) with
    | .flags al => al == [[.good], [.good], [.suspect], [.fail], [.fail], [.good], [.good],
                          [.suspect], [.fail], [.good], [.good]]
    | .reject _ => false) = true := by
  decide +kernel

end IoosQc
