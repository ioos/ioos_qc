/-
  What surrounds the tests, as `harness/translate.py` regenerates it from /repo's source (`Model/NpAgg`, `NpStore`, `NpCollect`,
  `NpCall`, `NpConfig`), equals the models the properties are stated about: `qartod_compare` (C04), `PandasStore.save` (C19),
  `Call.run` (C05) and the call extraction of `ContextConfig` (C07) as equations `program args = model args`;
  `collect_results_dict` (C06) key by key (`C06_src_dict`).
-/
import IoosQc.Model.NpAgg
import IoosQc.Model.NpStore
import IoosQc.Model.NpCollect
import IoosQc.Model.NpCall
import IoosQc.Model.NpConfig
import IoosQc.Lemmas.NpTab

namespace IoosQc.NpSrc
open IoosQc.Np

theorem mem_whereEq (v : List IoosQc.Cell) (p : Flag) (i : Nat) :
    i ∈ whereEq v p ↔ v.getD i .masked = .flag p := by
  simp only [whereEq, List.mem_filter, List.mem_range, beq_iff_eq, and_iff_right_iff_imp]
  intro h
  by_cases hl : i < v.length
  · exact hl
  · rw [List.getD_eq_getElem?_getD, List.getElem?_eq_none (by omega)] at h; cases h

theorem inner_tab (vs : List (List IoosQc.Cell)) (n : Nat) (p : Flag) (f : Nat → Flag) :
    vs.foldl (fun r v => setIdx r (whereEq v p) p) (tab n f) = tab n fun i => passFor p (f i) (column vs i) := by
  induction vs generalizing f with
  | nil => rfl
  | cons v vs ih => simp only [List.foldl_cons, np, ih, mem_whereEq, passFor, column, List.map_cons]

theorem outer_tab (vs : List (List IoosQc.Cell)) (ps : List Flag) (n : Nat) (f : Nat → Flag) :
    ps.foldl (fun r p => vs.foldl (fun r v => setIdx r (whereEq v p) p) r) (tab n f)
      = tab n fun i => ps.foldl (fun acc p => passFor p acc (column vs i)) (f i) :=
  foldl_tab _ (inner_tab vs n) ps f

/-- `all(s == shapes[0] for s in shapes)` compares every further vector with the first -/
theorem shapes_all (v : List IoosQc.Cell) (rest : List (List IoosQc.Cell)) :
    ((v :: rest).map fun v => v.length).all (fun s => some s == ((v :: rest).map fun v => v.length)[0]?)
      = rest.all fun w => w.length == v.length := by
  simp [List.all_map, Function.comp_def]

theorem C04_src_compare (vs : List (List IoosQc.Cell)) : qartod_compare vs = qartodCompare vs := by
  unfold qartod_compare qartodCompare
  cases vs with
  | nil => simp [maEmpty, exc]
  | cons v rest =>
    simp only [shapes_all]
    by_cases hall : rest.all (fun w => w.length == v.length) = true
    · simp only [hall, Bool.not_true, Bool.false_eq_true, if_false, if_true, List.map_cons, List.getElem?_cons_zero, maEmpty, pure_bind,
        List.forIn_pure_yield_eq_foldl, bind_pure_comp, map_pure, fillWith, np, outer_tab]
      rfl
    · simp [hall, exc]

theorem forIn_id_eq_foldl {α β : Type} (l : List α) (init : β) (f : α → β → Id (ForInStep β)) (g : α → β → β)
    (h : ∀ a b, f a b = pure (ForInStep.yield (g a b))) : forIn l init f = pure (l.foldl (fun b a => g a b) init) :=
  forIn_eq_foldl l init f g h

theorem column_eq (r : StoreRes) : column_from_collected_result r = columnName r := by
  simp [column_from_collected_result, columnName, rawName, dotted, String.append_assoc]

def defaultAxes : Axes := ⟨"time", "z", "lat", "lon"⟩

def incSkip (inc : Option (List String)) (r : StoreRes) : Bool :=
  match inc with | some l => !(l.contains r.fn) && !(l.contains r.stream) && !(l.contains r.test) | none => false
def excSkip (exc : Option (List String)) (r : StoreRes) : Bool :=
  match exc with | some l => l.contains r.fn || l.contains r.stream || l.contains r.test | none => false

theorem kept_eq (inc exc : Option (List String)) (r : StoreRes) : kept inc exc r = (!(incSkip inc r) && !(excSkip exc r)) := by
  cases inc <;> cases exc <;> simp [kept, listed, incSkip, excSkip]

/-- one axis statement of the loop body -/
def axStep (wa : Bool) (n : String) (v : Option Nat) (df : Frame) : Frame :=
  match v with
  | some x => if wa = true && !(df.has n) then setCol df n x else df
  | none => df

/-- the statements after the four axis statements -/
def tailStep (wd : Bool) (inc exc : Option (List String)) (r : StoreRes) (df : Frame) : Frame :=
  if incSkip inc r then df
  else if excSkip exc r then df
  else
  let df := if wd && !(df.has r.stream) && r.stream != "" then setCol df r.stream r.data else df
  let column_name := column_from_collected_result r
  if !(df.has column_name) then setCol df column_name r.results else df

theorem addIfAbsent_some (df : Frame) (n : String) (x : Nat) :
    addIfAbsent df n (some x) = if !(df.has n) then setCol df n x else df := by
  cases h : df.has n <;> simp [addIfAbsent, setCol, h]

theorem axStep_eq (wa : Bool) (n : String) (v : Option Nat) (df : Frame) :
    axStep wa n v df = if wa then addIfAbsent df n v else df := by
  cases wa <;> cases v <;> simp [axStep, addIfAbsent_some] <;> rfl

theorem tailStep_eq (wd : Bool) (inc exc : Option (List String)) (r : StoreRes) (df : Frame) :
    tailStep wd inc exc r df
      = if !(kept inc exc r) then df
        else addIfAbsent (if wd && r.stream != "" then addIfAbsent df r.stream (some r.data) else df) (columnName r) (some r.results) := by
  unfold tailStep
  rw [kept_eq, column_eq]
  cases incSkip inc r <;> cases excSkip exc r <;> simp only [Bool.not_false, Bool.not_true, Bool.and_true, Bool.and_false,
    Bool.false_eq_true, if_false, if_true]
  simp only [addIfAbsent_some]
  cases wd <;> cases df.has r.stream <;> cases (r.stream != "") <;> rfl

theorem C19_src_save (rs : List StoreRes) (wd wa : Bool) (inc exc : Option (List String)) :
    save rs defaultAxes wd wa inc exc = storeSave wd wa inc exc rs := by
  unfold save storeSave
  congr 1
  funext df r
  show tailStep wd inc exc r (axStep wa "lat" r.lat (axStep wa "lon" r.lon (axStep wa "z" r.zinp (axStep wa "time" r.tinp df)))) = _
  simp only [tailStep_eq, axStep_eq, saveStep]
  cases wa <;> simp

/-- the statements for one CallResult `tr` of context `r` -/
def trStep (r : CR) (d : DState) (tr : TR) : DState :=
  let k : DKey := (r.stream, tr.package, tr.test)
  let d1 := if !(dhas d k) then dset d k (emptyLikeFilled r.subset 2) else d
  dset d1 k (scatter (dget d1 k) r.subset tr.results)

def crStep (d : DState) (r : CR) : DState := r.results.foldl (trStep r) d

theorem collect_eq_foldl (rs : List CR) : collect_results_dict rs = rs.foldl crStep [] := by
  unfold collect_results_dict
  simp only [Id.run]
  rw [forIn_id_eq_foldl _ _ _ (fun r d => crStep d r)]
  · rfl
  · intro r d
    simp only [crStep]
    rw [forIn_id_eq_foldl _ _ _ (fun tr d => trStep r d tr)]
    · rfl
    · intro tr d'
      simp only [trStep]
      split <;> rfl

theorem dlookup_dset (d : DState) (k k' : DKey) (v : List (Option Int)) :
    dlookup (dset d k v) k' = if k' = k then some v else dlookup d k' := by
  induction d with
  | nil => simp [dset, dlookup, eq_comm]
  | cons p ps ih =>
    by_cases hp : p.1 = k
    · subst hp; simp only [dset, dlookup, if_true, eq_comm]; split <;> simp [*]
    · by_cases hq : p.1 = k'
      · subst hq; simp [dset, dlookup, hp]
      · simp [dset, dlookup, hp, hq, ih]

/-- what one piece does to the column stored under a key (`none`: no column yet) -/
def extend1 (cur : Option (List (Option Int))) (mask : List Bool) (vals : List Int) : Option (List (Option Int)) :=
  some (scatter (cur.getD (emptyLikeFilled mask 2)) mask vals)

theorem dlookup_trStep (r : CR) (d : DState) (tr : TR) (k : DKey) :
    dlookup (trStep r d tr) k =
      if k = (r.stream, tr.package, tr.test) then extend1 (dlookup d k) r.subset tr.results else dlookup d k := by
  unfold trStep
  by_cases hk : k = (r.stream, tr.package, tr.test)
  · subst hk
    cases hd : dlookup d (r.stream, tr.package, tr.test) <;> simp [dhas, dget, hd, dlookup_dset, extend1]
  · cases hd : dlookup d (r.stream, tr.package, tr.test) <;> simp [dhas, hd, dlookup_dset, hk]

/-- the pieces a list of CallResults of context `r` holds for key `k`, in order -/
def trPieces (r : CR) (k : DKey) : List Piece :=
  r.results.filterMap fun tr => if k = (r.stream, tr.package, tr.test) then some ⟨r.subset, tr.results⟩ else none

def dictPieces (rs : List CR) (k : DKey) : List Piece := rs.flatMap fun r => trPieces r k

def extend (cur : Option (List (Option Int))) (ps : List Piece) : Option (List (Option Int)) :=
  ps.foldl (fun c p => extend1 c p.mask p.vals) cur

theorem dlookup_trs (r : CR) (trs : List TR) (d : DState) (k : DKey) :
    dlookup (trs.foldl (trStep r) d) k =
      extend (dlookup d k) (trs.filterMap fun tr => if k = (r.stream, tr.package, tr.test) then some ⟨r.subset, tr.results⟩ else none) := by
  induction trs generalizing d with
  | nil => rfl
  | cons tr trs ih =>
    simp only [List.foldl_cons, ih, dlookup_trStep, List.filterMap_cons]
    by_cases hk : k = (r.stream, tr.package, tr.test)
    · simp [hk, extend]
    · simp [hk]

theorem dlookup_crs (rs : List CR) (d : DState) (k : DKey) :
    dlookup (rs.foldl crStep d) k = extend (dlookup d k) (dictPieces rs k) := by
  rw [dictPieces, extend, List.foldl_flatMap]
  exact (List.foldl_hom (dlookup · k) fun d r => (dlookup_trs r r.results d k).symm).symm

/-- Under every key `collect_results_dict` holds the pieces of that key scattered, in yield order, onto an all-UNKNOWN column of the
    first piece's length (no entry when no CallResult carries the key). -/
theorem C06_src_dict (rs : List CR) (k : DKey) :
    dlookup (collect_results_dict rs) k = extend none (dictPieces rs k) := by
  rw [collect_eq_foldl, dlookup_crs]; rfl

theorem extend_eq_fold (n : Nat) (p : Piece) (ps : List Piece) (hp : p.mask.length = n) :
    extend none (p :: ps) = some ((p :: ps).foldl (fun acc q => scatter acc q.mask q.vals) (List.replicate n (some 2))) := by
  have h0 : emptyLikeFilled p.mask 2 = List.replicate n (some 2) := by
    subst hp; simp [emptyLikeFilled, List.map_const']
  simp only [extend, List.foldl_cons, extend1, Option.getD_none, h0]
  exact List.foldl_hom some fun _ _ => rfl

/-- in the terms of C06: the column is `collectDict` of `Model/Results` (with one input table all masks have the length `n`) -/
theorem C06_src_dict_collectDict (rs : List CR) (k : DKey) (n : Nat) (p : Piece) (ps : List Piece)
    (hps : dictPieces rs k = p :: ps) (hn : p.mask.length = n) :
    (dlookup (collect_results_dict rs) k).map (fun col => col.map (·.getD 2)) = some (collectDict n (p :: ps)) := by
  rw [C06_src_dict, hps, extend_eq_fold n p ps hn]; rfl

theorem C05_src_call {β : Type} (configured passed : KwArgs) (sig : List String) (f : KwArgs → Except Err β) :
    Call_run configured passed sig f = callRun f configured passed sig := by
  unfold Call_run callRun callKwargs
  dsimp only
  cases h : f (List.filter (fun kv => sig.contains kv.1) (dictMerge configured passed)) <;> simp

/-- the last two arguments: the window and region that `ContextConfig` parsed -/
theorem C07_src_context (knownMod : String → Bool) (known : String → String → Bool) (c : J) :
    ContextConfig_calls knownMod known c ((c.get? "window").getD .null) (regionOf c) = contextCalls knownMod known c := by
  unfold ContextConfig_calls contextCalls
  dsimp only [Id.run]
  -- what one round of a loop appends is left open and read off the model when the two sides are compared
  rw [forIn_append _ _ _ _ ?_]
  · exact List.nil_append _
  rintro ⟨sid, sc⟩ calls
  rw [forIn_append _ _ _ _ ?_]
  · rfl
  rintro ⟨pkg, mods⟩ calls
  by_cases hk : knownMod pkg = true
  · simp only [hk, Bool.not_true, Bool.false_eq_true, if_false]
    rw [forIn_push _ _ _ _ ?_]
    · rfl
    rintro ⟨tn, kw⟩ calls
    by_cases ht : known pkg tn = true <;> simp [ht]
  · simp [hk]

end IoosQc.NpSrc
