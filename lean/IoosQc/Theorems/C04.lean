/-
  C04 — `qartod_compare` reports, at every position, the input flag of highest precedence
  (MISSING < UNKNOWN < GOOD < SUSPECT < FAIL), ignoring masked cells and non-flags; MISSING where nothing remains.
  The code's loop `compareAt` (one pass over the column per flag of `priorities`, later passes overwriting) is the
  maximum by rank `worstOf`, for ANY priority list sorted by rank that names the four flags above MISSING
  (`foldl_passFor_worst`).  Only the SET of flags in a column matters (`C04_set_ext`), whence independence of order,
  repetition and grouping.
-/
import IoosQc.Props.C04
import IoosQc.Lemmas.Basic
import IoosQc.Lemmas.MinMax

namespace IoosQc

theorem passFor_eq (p acc : Flag) (col : List Cell) :
    passFor p acc col = if Cell.flag p ∈ col then p else acc := by
  unfold passFor
  induction col generalizing acc with
  | nil => simp
  | cons c cs ih =>
    simp only [List.foldl_cons, ih, List.mem_cons]
    by_cases h : c = Cell.flag p
    · simp [h]
    · have : ¬ (Cell.flag p = c) := fun e => h e.symm
      simp [h, this]

theorem Flag.rank_inj {f g : Flag} (h : f.rank = g.rank) : f = g := by
  cases f <;> cases g <;> simp [Flag.rank] at h <;> rfl

theorem mem_filterMap_flag (col : List Cell) (f : Flag) :
    f ∈ col.filterMap Cell.flag? ↔ Cell.flag f ∈ col := by
  simp only [List.mem_filterMap]
  constructor
  · rintro ⟨c, hc, h⟩
    cases c <;> simp [Cell.flag?] at h
    subst h; exact hc
  · intro h; exact ⟨_, h, rfl⟩

/-- The roll-up is never better than any evaluated input flag. -/
theorem C04_worst_ge (col : List Cell) (f : Flag) (h : Cell.flag f ∈ col) :
    f.rank ≤ (worstOf col).rank :=
  foldl_sel_le (fun m x => x.rank ≤ m.rank) (fun _ => Nat.le_refl _) (fun _ _ _ h₁ h₂ => Nat.le_trans h₂ h₁) _
    (fun a b => by split <;> omega) (fun a b => by split <;> omega) _ .missing f
    (.tail _ ((mem_filterMap_flag col f).2 h))

theorem C04_worst_mem (col : List Cell) :
    worstOf col = .missing ∨ Cell.flag (worstOf col) ∈ col :=
  (List.mem_cons.1 (foldl_sel_mem _ (fun a b => by split <;> simp) (col.filterMap Cell.flag?) .missing)).imp_right
    (mem_filterMap_flag col _).1

theorem worstOf_unique (col : List Cell) (w : Flag) (hmem : w = .missing ∨ Cell.flag w ∈ col)
    (hge : ∀ f, Cell.flag f ∈ col → f.rank ≤ w.rank) : w = worstOf col := by
  apply Flag.rank_inj
  apply Nat.le_antisymm
  · rcases hmem with rfl | h
    · exact Nat.zero_le _
    · exact C04_worst_ge col w h
  · rcases C04_worst_mem col with h | h
    · rw [h]; exact Nat.zero_le _
    · exact hge _ h

/-- The start value MISSING generalised, as the induction needs. -/
theorem foldl_passFor_sorted (col : List Cell) (ps : List Flag) (init : Flag)
    (hs : ps.Pairwise fun p q => p.rank ≤ q.rank) (hi : ∀ p ∈ ps, init.rank ≤ p.rank) :
    (ps.foldl (fun acc p => passFor p acc col) init = init ∨
      Cell.flag (ps.foldl (fun acc p => passFor p acc col) init) ∈ col) ∧
    init.rank ≤ (ps.foldl (fun acc p => passFor p acc col) init).rank ∧
    ∀ p ∈ ps, Cell.flag p ∈ col → p.rank ≤ (ps.foldl (fun acc p => passFor p acc col) init).rank := by
  induction ps generalizing init with
  | nil => simp
  | cons p ps ih =>
    rw [List.pairwise_cons] at hs
    rw [List.forall_mem_cons] at hi
    rw [List.foldl_cons, passFor_eq, List.forall_mem_cons]
    by_cases hp : Cell.flag p ∈ col
    · rw [if_pos hp]
      obtain ⟨h1, h2, h3⟩ := ih p hs.2 hs.1
      exact ⟨Or.inr (h1.elim (fun h => h.symm ▸ hp) id), Nat.le_trans hi.1 h2, fun _ => h2, h3⟩
    · rw [if_neg hp]
      obtain ⟨h1, h2, h3⟩ := ih init hs.2 hi.2
      exact ⟨h1, h2, fun hpc => absurd hpc hp, h3⟩

theorem foldl_passFor_worst (col : List Cell) (ps : List Flag)
    (hs : ps.Pairwise fun p q => p.rank ≤ q.rank) (hall : ∀ f ∈ [Flag.unknown, .good, .suspect, .fail], f ∈ ps) :
    ps.foldl (fun acc p => passFor p acc col) .missing = worstOf col := by
  obtain ⟨h1, _, h3⟩ := foldl_passFor_sorted col ps .missing hs fun _ _ => Nat.zero_le _
  refine worstOf_unique col _ h1 fun f hf => ?_
  cases f with
  | missing => exact Nat.zero_le _
  | _ => exact h3 _ (hall _ (by decide)) hf

theorem C04_compareAt (col : List Cell) : compareAt col = worstOf col :=
  foldl_passFor_worst col priorities (by decide) (by decide)

/-- `qartod_compare` conforms to the property for any number of vectors of any length. -/
theorem C04_main (vs : List (List Cell)) :
    C04.holds vs (qartodCompare vs).toObs = true := by
  unfold C04.holds C04.spec qartodCompare
  cases vs with
  | nil => rfl  -- `.reject none` against the raised IndexError, by computation
  | cons v rest =>
    dsimp only
    split
    · exact conforms_flags_range _ _ _ (fun i _ => by simp [C04_compareAt])
    · rfl  -- likewise, the AssertionError on unequal lengths

theorem C04_set_ext (a b : List Cell) (h : ∀ f, Cell.flag f ∈ a ↔ Cell.flag f ∈ b) :
    compareAt a = compareAt b := by
  simp only [compareAt, passFor_eq, h]

theorem C04_perm (a b : List Cell) (h : a.Perm b) : compareAt a = compareAt b :=
  C04_set_ext a b fun _ => h.mem_iff

theorem C04_dup (a : List Cell) (c : Cell) (h : c ∈ a) : compareAt (c :: a) = compareAt a :=
  C04_set_ext _ _ fun _ => List.mem_cons.trans (or_iff_right_of_imp fun e => e ▸ h)

theorem C04_assoc (a b : List Cell) :
    compareAt (Cell.flag (compareAt a) :: b) = compareAt (a ++ b) := by
  simp only [C04_compareAt, worstOf, List.filterMap_cons, Cell.flag?, List.filterMap_append, List.foldl_cons,
    List.foldl_append]
  -- the partial maximum re-enters the fold as its first element; MISSING is the bottom of the order
  generalize (a.filterMap Cell.flag?).foldl _ Flag.missing = w
  cases w <;> rfl

theorem C04_idem (a : List Cell) : compareAt [Cell.flag (compareAt a)] = compareAt a := by
  simpa using C04_assoc a []

example : compareAt [.flag .good, .masked, .junk 7, .flag .suspect, .flag .unknown] = .suspect := by decide
example : compareAt [.masked, .junk 0] = .missing := by decide
example : (qartodCompare [[.flag .good, .flag .missing, .junk 5], [.flag .fail, .masked, .masked]]).toObs
    = .flags [4, 9, 9] := by decide

end IoosQc
