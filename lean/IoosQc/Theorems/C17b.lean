/-
  C17, locality: changing one observation changes only the flags inside the test's neighbourhood
  (`nbhd`): the point itself for the range, climatology and bounding-box tests, with its two
  neighbours for spike and density inversion, with its successor for rate of change, speed and
  hop distance, the points whose trailing window contains it for flat line and the windowed
  attenuated-signal test.  Of `inDom` only the latter's window `0 < P` is used
  (`c17b_atten_needs_pos`).  Per test the statement is `LocalAt`, a `FlagRel` (Lemmas/NormalForm)
  between a call and its perturbation; `C17_locality` lifts it to `eqOutside`, which is what
  `C17.holds` asks of two flag lists under a perturbation.
-/
import IoosQc.Props.C17
import IoosQc.Theorems.C01
import IoosQc.Theorems.C08

namespace IoosQc

theorem c17b_eqOutside_range' (c : TestCall) (j : Nat) (F G : Nat → Int)
    (h : ∀ i, nbhd c j i = false → F i = G i) (n k : Nat) :
    eqOutside c j k ((List.range' k n).map F) ((List.range' k n).map G) = true := by
  induction n generalizing k with
  | zero => rfl
  | succ n ih =>
    simp only [List.range'_succ, List.map_cons, eqOutside, Bool.and_eq_true, Bool.or_eq_true,
      beq_iff_eq]
    refine ⟨?_, ih (k + 1)⟩
    cases hn : nbhd c j k with
    | true => exact Or.inl rfl
    | false => exact Or.inr (h k hn)

theorem c17b_holds_flags (t : Transform) (j : Nat) (c : TestCall) (hp : isPerturb t = some j)
    (a b : List Int) :
    C17.holds t c (.flags a) (.flags b) = eqOutside c j 0 a b := by
  cases t <;> simp [isPerturb] at hp <;> subst hp <;> simp [C17.holds, isPerturb]

/-- What locality asks of the call `c'` that `applyT` builds from `c` by changing observation `j`;
    `validParams` enters only in `C17_locality`. -/
def LocalAt (periodOf : Period → Int → Int) (j : Nat) (c c' : TestCall) : Prop :=
  c'.size = c.size ∧
    FlagRel (fun i a b => nbhd c j i = false → b = a) (c.flagAt periodOf) (c'.flagAt periodOf)

/-- `hi` is `nbhd c j i = false` for a location or speed call `c`. -/
theorem c17b_hopAt_agree (j : Nat) (h h' : List V) (ha : hopsAgreeExcept j h h' = true)
    (i : Nat) (hi : (i == j || i == j + 1) = false) : hopAt h' i = hopAt h i := by
  cases i with
  | zero => rfl
  | succ k =>
    show getV h' k = getV h k
    simp only [Bool.or_eq_false_iff, beq_eq_false_iff_ne, ne_eq, Nat.add_right_cancel_iff] at hi
    simp only [hopsAgreeExcept, Bool.and_eq_true, beq_iff_eq, List.all_eq_true, List.mem_range,
      Bool.or_eq_true] at ha
    by_cases hlt : k < h.length
    · rcases ha.2 k hlt with (e | e) | e
      · exact absurd e hi.1
      · exact absurd e hi.2
      · exact e.symm
    · rw [getV_of_le h (Nat.le_of_not_lt hlt), getV_of_le h' (ha.1 ▸ Nat.le_of_not_lt hlt)]

/-- The code's `noDepth` switch is invisible at a point: a depth-banded member never matches a
    missing depth, skipped or not. -/
theorem c17b_climAt_noDepth (periodOf : Period → Int → Int) (ms : List Member) (nd1 nd2 : Bool)
    (t : Int) (x z : V) (h1 : nd1 = true → z = none) (h2 : nd2 = true → z = none) :
    climAt periodOf ms nd1 t x z = climAt periodOf ms nd2 t x z := by
  cases x with
  | none => rw [climAt_missing, climAt_missing]
  | some v => rw [climAt_present _ _ _ _ _ _ h1, climAt_present _ _ _ _ _ _ h2]

theorem c17b_spikeAt_set (m : SpikeMethod) (sus fail : Option Rat) (xs : List V) (j i : Nat) (v : V)
    (h : ¬ (j ≤ i + 1 ∧ i ≤ j + 1)) :
    spikeAt m sus fail (xs.set j v) i = spikeAt m sus fail xs i := by
  obtain ⟨h0, h1, h2⟩ : i ≠ j ∧ i - 1 ≠ j ∧ i + 1 ≠ j := by omega
  unfold spikeAt spikeDiff
  simp only [List.length_set, getV_set_ne xs j i v h0, getV_set_ne xs j (i - 1) v h1,
    getV_set_ne xs j (i + 1) v h2]

theorem c17b_rocAt_set (thr : Rat) (xs : List V) (ts : List Int) (j i : Nat) (v : V)
    (h1 : i ≠ j) (h2 : i ≠ j + 1) :
    rocAt thr (xs.set j v) ts i = rocAt thr xs ts i := by
  unfold rocAt rocRate
  simp only [getV_set_ne xs j i v h1, getV_set_ne xs j (i - 1) v (by omega)]

theorem c17b_flatHit_set (xs : List V) (k : Nat) (tol : Rat) (j i : Nat) (v : V)
    (h : i < j ∨ j + k < i) :
    flatHit (xs.set j v) k tol i = flatHit xs k tol i := by
  unfold flatHit
  by_cases hk : k ≤ i
  · rw [windowEnding_set xs j i k v hk h]
  · simp [hk]

theorem c17b_flatAt_set (ks kf : Nat) (tol : Rat) (xs : List V) (j i : Nat) (v : V)
    (h : i < j ∨ j + max ks kf < i) :
    flatAt ks kf tol (xs.set j v) i = flatAt ks kf tol xs i := by
  obtain ⟨hs, hf, hne⟩ : (i < j ∨ j + ks < i) ∧ (i < j ∨ j + kf < i) ∧ i ≠ j := by omega
  unfold flatAt
  rw [c17b_flatHit_set xs ks tol j i v hs, c17b_flatHit_set xs kf tol j i v hf,
    getV_set_ne xs j i v hne]

theorem c17b_windowStat_set (ct : CheckType) (minp : Nat) (xs : List V) (ts : List Int) (P : Rat)
    (j i : Nat) (v : V) (h : j ∉ trailing ts P i) :
    windowStat ct minp (xs.set j v) ts P i = windowStat ct minp xs ts P i := by
  unfold windowStat
  rw [List.map_congr_left fun k hk => getV_set_ne xs j k v fun e => h (e ▸ hk)]

/-- `P = 0`: the trailing window `(t_i − P, t_i]` and with it `nbhd` are empty, yet the flag at `i`
    still reads `x_i`: setting `x_0` to missing turns UNKNOWN into MISSING. -/
theorem c17b_atten_needs_pos :
    (TestCall.attenuated "range" [some 0, some 1] [0, 60] 1 (1/2) (some 0) none none).validParams
        IoosQc.periodOf = true ∧
    (TestCall.attenuated "range" [some 0, some 1] [0, 60] 1 (1/2) (some 0) none none).inDom = false ∧
    C17.holds (.perturb 0 none)
      (.attenuated "range" [some 0, some 1] [0, 60] 1 (1/2) (some 0) none none)
      ((TestCall.attenuated "range" [some 0, some 1] [0, 60] 1 (1/2) (some 0) none none).run
        IoosQc.periodOf).toObs
      ((TestCall.attenuated "range" ([some 0, some 1].set 0 none) [0, 60] 1 (1/2) (some 0) none
        none).run IoosQc.periodOf).toObs = false := by
  decide +kernel

theorem c17b_densAt_congr (sus fail : Option Rat) (rho rho' z z' : List V) (j i : Nat)
    (hl : rho'.length = rho.length) (hr : ∀ k, k ≠ j → getV rho' k = getV rho k)
    (hz : ∀ k, k ≠ j → getV z' k = getV z k) (h : ¬ (j ≤ i + 1 ∧ i ≤ j + 1)) :
    densAt sus fail rho' z' i = densAt sus fail rho z i := by
  -- `densAt` at `i` reads the pairs `(i, i + 1)` and `(i - 1, i - 1 + 1)`; `densDelta` writes the
  -- last cell in that form, and it is `i` only for `0 < i`
  obtain ⟨h0, h1, h2, h3⟩ : i ≠ j ∧ i + 1 ≠ j ∧ i - 1 ≠ j ∧ i - 1 + 1 ≠ j := by omega
  unfold densAt densPairBelow recMissing densDelta
  simp only [hl, hr i h0, hr (i + 1) h1, hr (i - 1) h2, hr (i - 1 + 1) h3, hz i h0, hz (i + 1) h1,
    hz (i - 1) h2, hz (i - 1 + 1) h3]

theorem c17b_density_local (periodOf : Period → Int → Int) (rho rho' z z' : List V)
    (sus fail : Option Rat) (j : Nat) (hl : rho'.length = rho.length) (hlz : z'.length = z.length)
    (hr : ∀ k, k ≠ j → getV rho' k = getV rho k) (hz : ∀ k, k ≠ j → getV z' k = getV z k) :
    LocalAt periodOf j (.density rho z sus fail) (.density rho' z' sus fail) := by
  refine ⟨hl, ?_⟩
  simp only [TestCall.flagAt, hl, hlz]
  refine .guard _ _ (.pure fun i hn => ?_)
  split
  · rfl
  · exact c17b_densAt_congr sus fail rho rho' z z' j i hl hr hz (by simpa [nbhd] using hn)

theorem c17b_track_set (lon lat hops hops' : List V) (j i : Nat) (x y : V)
    (ha : hopsAgreeExcept j hops hops' = true) (hn : (i == j || i == j + 1) = false) :
    getV (lon.set j x) i = getV lon i ∧ getV (lat.set j y) i = getV lat i ∧
      hopAt hops' i = hopAt hops i :=
  have hne : i ≠ j := by simpa using (Bool.or_eq_false_iff.1 hn).1
  ⟨getV_set_ne lon j i x hne, getV_set_ne lat j i y hne, c17b_hopAt_agree j hops hops' ha i hn⟩

/-- Every perturbation `applyT` builds is local; `perturbAux` on the depth may flip climatology's
    global `noDepth` switch, `perturbPos` brings a hop list that agrees with the old one except on
    the two hops touching `j`. -/
theorem C17_localAt (periodOf : Period → Int → Int) (t : Transform) (j : Nat) (c c' : TestCall)
    (hp : isPerturb t = some j) (ht : applyT t c = some c') (hd : c.inDom = true) :
    LocalAt periodOf j c c' := by
  cases t with
  | perturb j' v =>
    cases hp
    have hset : ∀ (xs : List V) i, i ≠ j → getV (xs.set j v) i = getV xs i :=
      fun xs i h => getV_set_ne xs j i v h
    cases c with
    | gross fail suspect inp =>
      cases ht
      have hne : ∀ i, nbhd (.gross fail suspect inp) j i = false →
          getV (inp.set j v) i = getV inp i := fun i hn => hset inp i (by simpa [nbhd] using hn)
      refine ⟨List.length_set .., .bind _ fun f => ?_⟩
      cases suspect with
      | none => exact .pure fun i hn => congrArg _ (hne i hn)
      | some s => exact .bind _ fun u => .guard _ _ (.pure fun i hn => congrArg _ (hne i hn))
    | valid lo hi si ei inp =>
      cases ht
      exact ⟨List.length_set .., .pure fun i hn => congrArg _ (hset inp i (by simpa [nbhd] using hn))⟩
    | climatology ms inp tt z =>
      cases ht
      exact ⟨List.length_set .., .pure fun i hn => by rw [hset inp i (by simpa [nbhd] using hn)]⟩
    | spike method sus fail inp =>
      cases ht
      exact ⟨List.length_set .., .bind _ fun m => .pure fun i hn =>
        c17b_spikeAt_set m sus fail inp j i v (by simpa [nbhd] using hn)⟩
    | roc inp tt thr =>
      cases ht
      refine ⟨List.length_set .., ?_⟩
      simp only [TestCall.flagAt, List.length_set]
      refine .guard _ _ (.pure fun i hn => ?_)
      have hne : i ≠ j ∧ i ≠ j + 1 := by simpa [nbhd] using hn
      exact c17b_rocAt_set thr inp tt j i v hne.1 hne.2
    | flatLine inp tt sus fail tol =>
      cases ht
      refine ⟨List.length_set .., .pure fun i hn => ?_⟩
      simp only [List.length_set]
      split
      · next hn3 => simp only [hset inp i (by simpa [nbhd, hn3] using hn)]
      · next hn3 =>
        have hne : ¬ (j ≤ i ∧
            i ≤ j + max (flatCount sus (medianStep tt)) (flatCount fail (medianStep tt))) := by
          simpa [nbhd, hn3] using hn
        exact c17b_flatAt_set _ _ tol inp j i v (by omega)
    | density rho z sus fail =>
      cases ht
      exact c17b_density_local periodOf rho _ z z sus fail j (List.length_set ..) rfl
        (fun k hk => hset rho k hk) fun _ _ => rfl
    | attenuated ct inp tt sus fail p mo mp =>
      -- `applyT` perturbs the windowed test only; `inDom` has `0 < P`
      cases p with
      | none => cases ht
      | some P =>
        cases ht
        simp only [TestCall.inDom, Bool.and_eq_true, decide_eq_true_eq] at hd
        refine ⟨List.length_set .., .bind _ fun ct => .pure fun i hn => ?_⟩
        have hnot : j ∉ trailing tt P i := by simpa [nbhd] using hn
        have hne : i ≠ j := fun e => hnot (e ▸ trailing_self tt P i hd.1.2)
        rw [c17b_windowStat_set ct _ inp tt P j i v hnot, hset inp i hne]
    | _ => cases ht
  | perturbAux j' v =>
    cases hp
    cases c with
    | climatology ms inp tt z =>
      cases ht
      refine ⟨rfl, .pure fun i hn => ?_⟩
      have hne : i ≠ j := by simpa [nbhd] using hn
      rw [getV_set_ne z j i v hne]
      exact c17b_climAt_noDepth periodOf ms _ _ _ _ _
        (fun hall => by rw [← getV_set_ne z j i v hne]; exact getV_of_all_none _ i hall)
        (fun hall => getV_of_all_none z i hall)
    | density rho z sus fail =>
      cases ht
      exact c17b_density_local periodOf rho rho z _ sus fail j rfl (List.length_set ..)
        (fun _ _ => rfl) fun k hk => getV_set_ne z j k v hk
    | _ => cases ht
  | perturbPos j' x y h' =>
    cases hp
    cases c with
    | location lon lat bbox r hops =>
      simp only [applyT] at ht
      split at ht <;> cases ht
      next ha =>
        refine ⟨List.length_set .., ?_⟩
        simp only [TestCall.flagAt, List.length_set]
        refine .bind _ fun b => .guard _ _ (.pure fun i hn => ?_)
        obtain ⟨h1, h2, h3⟩ := c17b_track_set lon lat hops h' j i x y ha hn
        rw [h1, h2, h3]
    | speed lon lat tt sus fail hops =>
      simp only [applyT] at ht
      split at ht <;> cases ht
      next ha =>
        refine ⟨List.length_set .., ?_⟩
        simp only [TestCall.flagAt, List.length_set]
        refine .guard _ _ (.pure fun i hn => ?_)
        obtain ⟨h1, h2, h3⟩ := c17b_track_set lon lat hops h' j i x y ha hn
        split
        · rfl
        · unfold speedAt
          rw [h1, h2, h3]
    | _ => cases ht
  | _ => cases hp

/-- C17 locality: for every perturbation `t` and every call `c` it applies to (in the domain, with
    valid parameters) the flags outside the neighbourhood of the changed point are unchanged. -/
theorem C17_locality (periodOf : Period → Int → Int) (t : Transform) (j : Nat) (c c' : TestCall)
    (hp : isPerturb t = some j) (ht : applyT t c = some c')
    (hv : c.validParams periodOf = true) (hd : c.inDom = true) :
    C17.holds t c (c.run periodOf).toObs (c'.run periodOf).toObs = true := by
  have h := C17_localAt periodOf t j c c' hp ht hd
  -- valid parameters make `c` accepted, hence `c'`; both runs tabulate their flag functions
  obtain ⟨fs, hfs⟩ := C01_run_ok periodOf c hv
  obtain ⟨g, hg, rfl⟩ := (TestCall.run_ok_iff periodOf c fs).1 hfs
  obtain ⟨g', hg', hgg⟩ := h.2 g hg
  rw [hfs, TestCall.run_eq, hg', h.1]
  simp only [map_ok, Res.toObs, List.map_map, List.range_eq_range']
  rw [c17b_holds_flags t j c hp]
  exact c17b_eqOutside_range' c j _ _
    (fun i hn => congrArg (fun f => (f.code : Int)) (hgg i hn).symm) _ 0

example :
    let c := TestCall.spike "average" (some 1) (some 3) [some 0, some 0, some 0, some 0, some 0, some 0, some 0]
    applyT (.perturb 3 (some 8)) c
        = some (.spike "average" (some 1) (some 3) [some 0, some 0, some 0, some 8, some 0, some 0, some 0]) ∧
    c.validParams IoosQc.periodOf = true ∧ c.inDom = true ∧
    (c.run IoosQc.periodOf).toObs = .flags [2, 1, 1, 1, 1, 1, 2] ∧
    ((TestCall.spike "average" (some 1) (some 3)
        [some 0, some 0, some 0, some 8, some 0, some 0, some 0]).run IoosQc.periodOf).toObs
      = .flags [2, 1, 4, 4, 4, 1, 2] ∧
    (List.range 7).map (nbhd c 3) = [false, false, true, true, true, false, false] := by
  decide +kernel

/-- The same two outputs fail `C17.holds` for a perturbation claimed at position 0, whose
    neighbourhood is {0, 1}. -/
example :
    C17.holds (.perturb 0 (some 8))
      (.spike "average" (some 1) (some 3) [some 0, some 0, some 0, some 0, some 0, some 0, some 0])
      (.flags [2, 1, 1, 1, 1, 1, 2]) (.flags [2, 1, 4, 4, 4, 1, 2]) = false ∧
    C17.holds (.perturb 3 (some 8))
      (.spike "average" (some 1) (some 3) [some 0, some 0, some 0, some 0, some 0, some 0, some 0])
      (.flags [2, 1, 1, 1, 1, 1, 2]) (.flags [2, 1, 4, 4, 4, 1, 2]) = true := by
  decide +kernel

example :
    let c := TestCall.attenuated "range" [some 0, some 2, some 0, some 2, some 0, some 2]
      [0, 60, 120, 180, 240, 300] 1 (1/2) (some 120) none none
    c.validParams IoosQc.periodOf = true ∧ c.inDom = true ∧
    (c.run IoosQc.periodOf).toObs = .flags [4, 1, 1, 1, 1, 1] ∧
    ((TestCall.attenuated "range" [some 0, some 2, some 2, some 2, some 0, some 2]
      [0, 60, 120, 180, 240, 300] 1 (1/2) (some 120) none none).run IoosQc.periodOf).toObs
      = .flags [4, 1, 4, 4, 1, 1] ∧
    (List.range 6).map (nbhd c 2) = [false, false, true, true, false, false] := by
  decide +kernel

end IoosQc
