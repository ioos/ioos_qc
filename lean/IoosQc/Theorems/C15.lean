/-
  C15 — carrier independence, as far as the *branch logic* of the normalisation goes: every carrier normalises to its
  logical series (`C15_data`, `C15_time`), so any test composed with the normalisation factors through the denotation
  (`C15_factor`).  That numpy / pandas coercions behave as `normalize` / `mapdates` say is checked by the correspondence
  run (all carriers of one logical case on the real functions), not proved.  `normalizeOld` models `np.array(inp)`,
  which returns the RAW data of a masked array and so drops the mask (F-11): `C15_data_bad_witness`.
-/
import IoosQc.Props.C15

namespace IoosQc

theorem zipWith_mask_id (d : List V) (m : List Bool)
    (h : (List.zipWith (fun (x : V) b => b && x.isSome) d m).any id = false) (hl : d.length = m.length) :
    List.zipWith (fun x b => if b then none else x) d m = d := by
  induction d generalizing m with
  | nil => cases m <;> rfl
  | cons x xs ih =>
    cases m with
    | nil => simp at hl
    | cons b bs =>
      rw [List.zipWith_cons_cons, List.any_cons, Bool.or_eq_false_iff] at h
      rw [List.zipWith_cons_cons, ih bs h.2 (Nat.succ.inj hl)]
      cases b with
      | false => rfl
      | true =>
        -- a masked cell holds no number
        cases x with
        | none => rfl
        | some q => exact absurd h.1 (by simp)

/-- No hypothesis: the mask of a masked array is honoured whatever lies under it. -/
theorem C15_data (c : DataCarrier) : c.normalize = c.denote := by
  cases c <;> rfl

/-- `Bad = false`: no masked cell holds a number. -/
theorem C15_data_partial (c : DataCarrier) (hw : c.wf = true) (hb : c.Bad = false) :
    c.normalizeOld = c.denote := by
  cases c with
  | pySeq cs => rfl
  | floatArr xs => rfl
  | maskedArr d m =>
    simp only [DataCarrier.normalizeOld, DataCarrier.denote]
    simp only [DataCarrier.wf, beq_iff_eq] at hw
    exact (zipWith_mask_id d m (by simpa [DataCarrier.Bad] using hb) hw).symm

/-- `C15_data_partial` needs `Bad = false`: `normalizeOld` reads a masked cell holding 7.25 as 7.25; `normalize` masks it. -/
theorem C15_data_bad_witness :
    ∃ c : DataCarrier, c.wf = true ∧ c.Bad = true ∧ c.normalizeOld ≠ c.denote ∧ c.normalize = c.denote :=
  ⟨.maskedArr [some 1, some (29/4)] [false, true], by decide +kernel, by decide +kernel, by decide +kernel,
   by decide +kernel⟩

theorem C15_time (c : TimeCarrier) : c.mapdates = c.denote := by
  cases c <;> rfl

/-- `f`: any test with any parameters. -/
theorem C15_factor {β : Type} (f : List V → List Int → β) (d1 d2 : DataCarrier) (t1 t2 : TimeCarrier)
    (hd : d1.denote = d2.denote) (ht : t1.denote = t2.denote) :
    f d1.normalize t1.mapdates = f d2.normalize t2.mapdates := by
  rw [C15_data d1, C15_data d2, C15_time, C15_time, hd, ht]

/-- `C15.holds`: one logical call gives one result, which conforms to the specification, however many carriers deliver it. -/
theorem C15_main (periodOf : Period → Int → Int) (c : TestCall) (n : Nat)
    (hs : conforms (c.spec periodOf) (c.run periodOf).toObs = true) :
    C15.holds periodOf c (List.replicate n (c.run periodOf).toObs) = true := by
  unfold C15.holds
  simp only [Bool.and_eq_true, List.all_eq_true]
  refine ⟨fun o ho => ?_, ?_⟩
  · rw [List.eq_of_mem_replicate ho]; exact hs
  · cases n with
    | zero => simp
    | succ k =>
      simp only [List.replicate_succ, List.all_eq_true, decide_eq_true_eq]
      intro o ho
      exact List.eq_of_mem_replicate ho

example : (DataCarrier.maskedArr [some 1, none, some 3] [false, true, false]).normalize
    = (DataCarrier.pySeq [.num 1, .pyNone, .num 3]).denote := by decide +kernel

end IoosQc
