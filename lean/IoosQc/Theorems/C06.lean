/-
  C06 — collected results put every context's flags back on the right input rows.  `collect_results` scatters the
  contexts' `Piece`s in yield order; for well-formed pieces (`Piece.wf`) the collected column is `coveredValue` tabulated
  over the rows (`collectColumn_eq`, `collectDict_eq`): the value of the last covering piece at the row's rank, masked
  (list form) or UNKNOWN (dict form) where none covers.  Independence of the yield order needs pairwise disjoint masks
  (last example).  `distinctKeys` holds every yielded key once, whatever the yield order (`C06_keys_*`).
-/
import IoosQc.Props.C06
import IoosQc.Lemmas.PushNew
namespace IoosQc

theorem rankAt_cons_true_succ (ms : List Bool) (i : Nat) : rankAt (true :: ms) (i + 1) = rankAt ms i + 1 := by
  simp [rankAt]
theorem rankAt_cons_false_succ (ms : List Bool) (i : Nat) : rankAt (false :: ms) (i + 1) = rankAt ms i := by
  simp [rankAt]

theorem rankAt_lt_count (mask : List Bool) (i : Nat) (h : mask.getD i false = true) :
    rankAt mask i < mask.count true := by
  induction mask generalizing i with
  | nil => simp at h
  | cons m ms ih =>
    cases i with
    | zero =>
      have : m = true := by simpa using h
      subst this
      simp [rankAt]
    | succ j =>
      have h' : ms.getD j false = true := by simpa using h
      have := ih j h'
      cases m
      · simpa [rankAt_cons_false_succ] using this
      · simpa [rankAt_cons_true_succ] using this

theorem scatter_length (acc : List (Option Int)) (mask : List Bool) (vals : List Int) :
    (scatter acc mask vals).length = acc.length := by
  induction acc generalizing mask vals with
  | nil => simp [scatter]
  | cons a as ih =>
    cases mask with
    | nil => simp [scatter]
    | cons m ms =>
      cases m with
      | false => simp [scatter, ih]
      | true => cases vals <;> simp [scatter, ih]

theorem scatter_getD (acc : List (Option Int)) (mask : List Bool) (vals : List Int) (i : Nat)
    (hm : mask.length = acc.length) (hv : vals.length = mask.count true) :
    (scatter acc mask vals).getD i none
      = if mask.getD i false then (vals[rankAt mask i]?) else acc.getD i none := by
  induction acc generalizing mask vals i with
  | nil =>
    rw [List.eq_nil_of_length_eq_zero hm]
    rfl
  | cons a as ih =>
    obtain _ | ⟨m, ms⟩ := mask
    · cases hm
    have hm' : ms.length = as.length := Nat.succ.inj hm
    cases m with
    | false =>
      cases i with
      | zero => rfl
      | succ j =>
        rw [scatter, rankAt_cons_false_succ]
        exact ih ms vals j hm' hv
    | true =>
      -- a selected row has a value
      obtain _ | ⟨v, vs⟩ := vals
      · simp at hv
      cases i with
      | zero => rfl
      | succ j =>
        rw [scatter, rankAt_cons_true_succ]
        exact ih ms vs j hm' (by simpa using hv)

theorem Piece.wf_iff (n : Nat) (p : Piece) :
    p.wf n = true ↔ p.mask.length = n ∧ p.vals.length = p.mask.count true := by
  simp [Piece.wf]

theorem Piece.valueAt_covers (p : Piece) (i : Nat) (v : Int) (h : p.valueAt i = some v) :
    p.mask.getD i false = true := by
  unfold Piece.valueAt at h
  split at h
  · assumption
  · simp at h

theorem scatter_piece (n : Nat) (p : Piece) (hw : p.wf n = true) (acc : List (Option Int))
    (ha : acc.length = n) (i : Nat) :
    (scatter acc p.mask p.vals).getD i none = (p.valueAt i).or (acc.getD i none) := by
  obtain ⟨h1, h2⟩ := (Piece.wf_iff n p).1 hw
  rw [scatter_getD acc p.mask p.vals i (by omega) h2]
  unfold Piece.valueAt
  by_cases hc : p.mask.getD i false = true
  · have hlt := rankAt_lt_count p.mask i hc
    have : rankAt p.mask i < p.vals.length := by omega
    rw [if_pos hc, if_pos hc, List.getElem?_eq_getElem this]
    rfl
  · rw [if_neg hc, if_neg hc]
    rfl

theorem coveredValue_cons (p : Piece) (ps : List Piece) (i : Nat) :
    coveredValue (p :: ps) i = (coveredValue ps i).or (p.valueAt i) := by
  unfold coveredValue
  cases h : p.valueAt i with
  | none => simp [h]
  | some v =>
    simp only [List.filterMap_cons, h, List.getLast?_cons]
    cases (List.filterMap (fun x => x.valueAt i) ps).getLast? <;> simp

theorem foldl_scatter_length (n : Nat) (ps : List Piece) (acc : List (Option Int)) (ha : acc.length = n) :
    (ps.foldl (fun acc p => scatter acc p.mask p.vals) acc).length = n := by
  induction ps generalizing acc with
  | nil => simpa using ha
  | cons p ps ih => simpa using ih _ (by rw [scatter_length]; exact ha)

/-- From ANY start column of the right length (the list form starts fully masked, the dict form UNKNOWN). -/
theorem foldl_scatter_eq (n : Nat) (ps : List Piece) (hw : ∀ p ∈ ps, p.wf n = true)
    (acc : List (Option Int)) (ha : acc.length = n) :
    ps.foldl (fun acc p => scatter acc p.mask p.vals) acc
      = (List.range n).map fun i => (coveredValue ps i).or (acc.getD i none) := by
  induction ps generalizing acc with
  | nil =>
    subst ha
    exact List.ext_getElem (by simp) fun i (h : i < acc.length) _ => by simp [coveredValue, h]
  | cons p ps ih =>
    rw [List.foldl_cons, ih (fun q hq => hw q (List.mem_cons_of_mem _ hq)) _ ((scatter_length ..).trans ha)]
    exact List.map_congr_left fun i _ => by
      rw [scatter_piece n p (hw p List.mem_cons_self) acc ha, coveredValue_cons, Option.or_assoc]

theorem collectColumn_eq (n : Nat) (ps : List Piece) (hw : ∀ p ∈ ps, p.wf n = true) :
    collectColumn n ps = (List.range n).map (coveredValue ps) := by
  rw [collectColumn, foldl_scatter_eq n ps hw _ (by simp)]
  exact List.map_congr_left fun i hi => by simp [List.mem_range.1 hi]

theorem collectDict_eq (n : Nat) (ps : List Piece) (hw : ∀ p ∈ ps, p.wf n = true) :
    collectDict n ps = (List.range n).map fun i => (coveredValue ps i).getD 2 := by
  rw [collectDict, foldl_scatter_eq n ps hw _ (by simp), List.map_map]
  exact List.map_congr_left fun i hi => by cases h : coveredValue ps i <;> simp [h, List.mem_range.1 hi]

theorem C06_collect_length (n : Nat) (ps : List Piece) : (collectColumn n ps).length = n :=
  foldl_scatter_length n ps _ (by simp)

theorem C06_collect_spec (n : Nat) (ps : List Piece) (hw : ∀ p ∈ ps, p.wf n = true) (i : Nat) (hi : i < n) :
    (collectColumn n ps).getD i none = coveredValue ps i := by
  simp [collectColumn_eq n ps hw, hi]

theorem C06_dict_length (n : Nat) (ps : List Piece) : (collectDict n ps).length = n := by
  rw [collectDict, List.length_map]
  exact foldl_scatter_length n ps _ (by simp)

theorem C06_dict_spec (n : Nat) (ps : List Piece) (hw : ∀ p ∈ ps, p.wf n = true) (i : Nat) (hi : i < n) :
    (collectDict n ps).getD i 0 = (coveredValue ps i).getD 2 := by
  simp [collectDict_eq n ps hw, hi]

theorem disjointMasks_at (a b : List Bool) (h : disjointMasks a b = true) (i : Nat) :
    ¬ (a.getD i false = true ∧ b.getD i false = true) := by
  induction a generalizing b i with
  | nil => exact fun hc => Bool.false_ne_true hc.1
  | cons x xs ih =>
    obtain _ | ⟨y, ys⟩ := b
    · exact fun hc => Bool.false_ne_true hc.2
    rw [disjointMasks, List.zipWith_cons_cons, List.all_cons, Bool.and_eq_true] at h
    cases i with
    | zero =>
      intro ⟨(hx : x = true), (hy : y = true)⟩
      rw [hx, hy] at h
      exact Bool.false_ne_true h.1
    | succ j => exact ih ys h.2 j

theorem covering_le_one (ps : List Piece) (hd : pairwiseDisjoint ps = true) (i : Nat) :
    (ps.filterMap (·.valueAt i)).length ≤ 1 := by
  induction ps with
  | nil => exact Nat.zero_le 1
  | cons p ps ih =>
    rw [pairwiseDisjoint, Bool.and_eq_true, List.all_eq_true] at hd
    cases hv : p.valueAt i with
    | none => simpa only [List.filterMap_cons, hv] using ih hd.2
    | some v =>
      have : ps.filterMap (·.valueAt i) = [] :=
        List.filterMap_eq_nil_iff.2 fun q hq => Option.eq_none_iff_forall_ne_some.2 fun v' hq' =>
          disjointMasks_at p.mask q.mask (hd.1 q hq) i ⟨p.valueAt_covers i v hv, q.valueAt_covers i v' hq'⟩
      simp only [List.filterMap_cons, hv, this, List.length_singleton, Nat.le_refl]

theorem perm_eq_of_length_le_one {α : Type} {l l' : List α} (h : l.Perm l') (hl : l.length ≤ 1) : l = l' :=
  match l, hl with
  | [], _ => (List.nil_perm.1 h).symm
  | [_], _ => List.singleton_perm.1 h

theorem coveredValue_perm (ps qs : List Piece) (hp : ps.Perm qs) (hd : pairwiseDisjoint ps = true)
    (i : Nat) : coveredValue ps i = coveredValue qs i := by
  unfold coveredValue
  -- the covering pieces of a row are permuted, and there is at most one of them
  rw [perm_eq_of_length_le_one (hp.filterMap (·.valueAt i)) (covering_le_one ps hd i)]

theorem C06_order_independent (n : Nat) (ps qs : List Piece) (hp : ps.Perm qs)
    (hw : ∀ p ∈ ps, p.wf n = true) (hd : pairwiseDisjoint ps = true) :
    collectColumn n ps = collectColumn n qs := by
  rw [collectColumn_eq n ps hw, collectColumn_eq n qs fun q hq => hw q (hp.mem_iff.2 hq)]
  exact List.map_congr_left fun i _ => coveredValue_perm ps qs hp hd i

theorem C06_dict_order_independent (n : Nat) (ps qs : List Piece) (hp : ps.Perm qs)
    (hw : ∀ p ∈ ps, p.wf n = true) (hd : pairwiseDisjoint ps = true) :
    collectDict n ps = collectDict n qs := by
  rw [collectDict_eq n ps hw, collectDict_eq n qs fun q hq => hw q (hp.mem_iff.2 hq)]
  exact List.map_congr_left fun i _ => by rw [coveredValue_perm ps qs hp hd i]

/-- The predicates that Handlers.lean evaluates on observed `collect_results` output hold of the model. -/
theorem C06_main (n : Nat) (ps : List Piece) (hw : ∀ p ∈ ps, p.wf n = true) (strict : Bool) :
    C06.columnOk n ps strict (collectColumn n ps) = true ∧ C06.dictOk n ps (collectDict n ps) = true := by
  rw [collectColumn_eq n ps hw, collectDict_eq n ps hw]
  constructor
  · simp only [C06.columnOk, List.length_map, List.length_range, beq_self_eq_true, Bool.true_and, List.all_eq_true,
      List.mem_range]
    intro i hi
    cases h : coveredValue ps i <;> simp [hi, h]
  · simp only [C06.dictOk, List.length_map, List.length_range, beq_self_eq_true, Bool.true_and, List.all_eq_true,
      List.mem_range]
    intro i hi
    simp [hi]

/-! ### "exactly one result per (stream id, module, test)" -/

theorem distinctKeys_eq (cs : List CtxPiece) : distinctKeys cs = (cs.map (·.key)).foldl (pushNew id) [] := by
  rw [List.foldl_map]
  simp [distinctKeys, pushNew]

theorem C06_keys_nodup (cs : List CtxPiece) : (distinctKeys cs).Nodup := by
  simpa [distinctKeys_eq] using foldl_pushNew_nodup id (cs.map (·.key)) (acc := []) (by simp)

theorem C06_keys_complete (cs : List CtxPiece) (k : String) :
    k ∈ distinctKeys cs ↔ ∃ c ∈ cs, c.key = k := by
  simpa [distinctKeys_eq] using mem_map_foldl_pushNew id (cs.map (·.key)) (acc := []) (k := k)

theorem C06_keys_perm (cs ds : List CtxPiece) (h : cs.Perm ds) (k : String) :
    k ∈ distinctKeys cs ↔ k ∈ distinctKeys ds := by
  simp only [C06_keys_complete, h.mem_iff]

/-! Three contexts over 6 rows: rows 0,1 / an empty window / rows 3,4; nobody covers rows 2 and 5. -/
section Examples

private def pA : Piece := ⟨[true, true, false, false, false, false], [11, 12]⟩
private def pE : Piece := ⟨[false, false, false, false, false, false], []⟩
private def pB : Piece := ⟨[false, false, false, true, true, false], [31, 32]⟩

example : (∀ p ∈ [pA, pE, pB], p.wf 6 = true) ∧ pairwiseDisjoint [pA, pE, pB] = true := by decide
example : collectColumn 6 [pA, pE, pB] = [some 11, some 12, none, some 31, some 32, none] := by decide
example : collectDict 6 [pA, pE, pB] = [11, 12, 2, 31, 32, 2] := by decide
example : collectColumn 6 [pB, pA, pE] = [some 11, some 12, none, some 31, some 32, none] := by decide
example : collectDict 6 [pB, pA, pE] = [11, 12, 2, 31, 32, 2] := by decide
example : (List.range 6).map (coveredValue [pA, pE, pB]) = [some 11, some 12, none, some 31, some 32, none] := by
  decide
example : C06.columnOk 6 [pA, pE, pB] true (collectColumn 6 [pB, pE, pA]) = true
    ∧ C06.dictOk 6 [pA, pE, pB] (collectDict 6 [pB, pE, pA]) = true := by decide
/-- the predicates reject a misplaced value and an unmasked uncovered row -/
example : C06.columnOk 6 [pA, pE, pB] true [some 12, some 11, none, some 31, some 32, none] = false := by decide
example : C06.columnOk 6 [pA, pE, pB] true [some 11, some 12, some 1, some 31, some 32, none] = false := by decide
example : C06.dictOk 6 [pA, pE, pB] [11, 12, 2, 31, 32, 1] = false := by decide
/-- `C06_order_independent` needs disjoint masks: with overlapping windows the context yielded last wins -/
example : collectColumn 2 [⟨[true, true], [1, 2]⟩, ⟨[false, true], [7]⟩] = [some 1, some 7]
    ∧ collectColumn 2 [⟨[false, true], [7]⟩, ⟨[true, true], [1, 2]⟩] = [some 1, some 2] := by decide

end Examples

end IoosQc
