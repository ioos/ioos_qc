/-
  C17 — flags ignore value/time offsets and depend only on the local neighbourhood: the
  invariance theorems of C17a and the locality theorem of C17b assembled over `Transform`.
-/
import IoosQc.Theorems.C17a
import IoosQc.Theorems.C17b
import IoosQc.Theorems.C01

namespace IoosQc

theorem C17_holds_of_eq (t : Transform) (c : TestCall) (r r' : Res) (fs : List Flag)
    (hr : r = .ok fs) (he : r' = r) (hnr : t ≠ .reverse) (hnp : isPerturb t = none) :
    C17.holds t c r.toObs r'.toObs = true := by
  subst he; subst hr
  simp only [C17.holds, Res.toObs]
  cases t <;> simp_all [isPerturb]

theorem C17_holds_of_reverse (c : TestCall) (r r' : Res) (fs : List Flag)
    (hr : r = .ok fs) (he : r' = r.map List.reverse) :
    C17.holds .reverse c r.toObs r'.toObs = true := by
  subst he; subst hr
  simp [C17.holds, Res.toObs, Except.map, List.map_reverse]

theorem C17_run_eq (periodOf : Period → Int → Int) (t : Transform) (c c' : TestCall)
    (ht : applyT t c = some c') (hnr : t ≠ .reverse) (hnp : isPerturb t = none)
    (hd : c.inDom = true) : c'.run periodOf = c.run periodOf := by
  cases t with
  | addValue k =>
    cases c <;> cases ht
    · exact C17_add_spike ..
    · exact C17_add_roc ..
    · exact C17_add_flat ..
    · exact C17_add_atten ..
    · exact C17_add_density ..
  | negate =>
    cases c <;> cases ht
    · exact C17_neg_spike ..
    · exact C17_neg_roc ..
    · exact C17_neg_flat ..
    · exact C17_neg_atten ..
  | shiftBoth k =>
    cases c <;> cases ht
    · exact C17_both_gross ..
    · exact C17_both_valid ..
  | shiftTime τ =>
    -- climatology and attenuated signal need `inp.length ≤ tt.length`; `hd` has equality
    cases c with
    | climatology ms inp tt z =>
      simp only [applyT] at ht
      split at ht <;> cases ht
      next hp =>
        simp only [TestCall.inDom, Bool.and_eq_true, beq_iff_eq] at hd
        exact C17_shift_climatology periodOf τ ms inp tt z hp (Nat.le_of_eq hd.1.1)
    | roc => cases ht; exact C17_shift_roc ..
    | flatLine => cases ht; exact C17_shift_flat ..
    | attenuated ct inp tt s f p mo mp =>
      cases ht
      simp only [TestCall.inDom, Bool.and_eq_true, beq_iff_eq] at hd
      exact C17_shift_atten τ ct inp tt s f p mo mp (Nat.le_of_eq hd.1.1.1)
    | speed => cases ht; exact C17_shift_speed ..
    | _ => cases ht
  | reverse => exact absurd rfl hnr
  | _ => cases hnp

/-- C17: for every transformation and every call it applies to (in the domain, with valid
    parameters) the flags are unchanged under value / time offsets, negation and joint shifts,
    mirrored under reversal of a spike series, and unchanged outside the test's neighbourhood under
    a single-point perturbation. -/
theorem C17_main (periodOf : Period → Int → Int) (t : Transform) (c c' : TestCall)
    (ht : applyT t c = some c') (hd : c.inDom = true) (hv : c.validParams periodOf = true) :
    C17.holds t c (c.run periodOf).toObs (c'.run periodOf).toObs = true := by
  obtain ⟨fs, hfs⟩ := C01_run_ok periodOf c hv
  cases hp : isPerturb t with
  | some j => exact C17_locality periodOf t j c c' hp ht hv hd
  | none =>
    by_cases hr : t = .reverse
    · subst hr
      cases c <;> cases ht
      exact C17_holds_of_reverse _ _ _ fs hfs (C17_reverse_spike ..)
    · exact C17_holds_of_eq t c _ _ fs hfs (C17_run_eq periodOf t c c' ht hr hp hd) hr hp

end IoosQc
