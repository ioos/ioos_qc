/-
  C12 — attenuated_signal_test.  The code's ordered assignments
  GOOD / SUSPECT / UNKNOWN / FAIL / MISSING resolve to the property sentence
  "UNKNOWN if the statistic is undefined, else FAIL if below the fail threshold, else SUSPECT if
  below the suspect threshold, else GOOD; MISSING for a missing value", for both check types,
  with and without `test_period`, and for every pair of thresholds (also fail > suspect).
-/
import IoosQc.Lemmas.Ladder

namespace IoosQc

theorem Stat.undef_cmp (θ : Rat) : Stat.undef.lt θ = false ∧ Stat.undef.ge θ = false := by
  simp [Stat.lt, Stat.ge]

theorem attenAt_spec (s : Stat) (sus fail : Rat) (x : V) :
    attenAt s sus fail x ∈ attenSpecAt s sus fail x := by
  rw [attenAt_ladder]
  cases x with
  | none => simp [attenSpecAt]
  | some v => simpa [attenSpecAt] using ladder_mem false s.isUndef (s.lt fail) (s.lt sus)

/-- C12; the property at one value is `attenSpecAt` (Props/Spec.lean). -/
theorem C12_atten (checkType : String) (inp : List V) (ts : List Int) (sus fail : Rat)
    (period : Option Rat) (minObs : Option Nat) (minPeriod : Option Rat) :
    conforms (attenSpec checkType inp ts sus fail period minObs minPeriod)
             (attenuatedTest checkType inp ts sus fail period minObs minPeriod).toObs = true := by
  unfold attenSpec attenuatedTest
  -- the property and the model parse `checkType` by the same expression
  generalize (if checkType = "std" then some CheckType.std
         else if checkType = "range" then some CheckType.range else none) = oct
  cases oct with
  | none => rfl
  | some ct =>
    cases period with
    | none =>
      exact conforms_flags_map inp _ _ (fun x _ => attenAt_spec (wholeStat ct inp) sus fail x)
    | some P =>
      exact conforms_flags_range inp.length _ _ (fun i _ => attenAt_spec _ sus fail _)

theorem trailing_mem (ts : List Int) (P : Rat) (i j : Nat) :
    j ∈ trailing ts P i ↔
      j ≤ i ∧ ((ts.getD i 0 : Int) : Rat) - P < ((ts.getD j 0 : Int) : Rat) := by
  unfold trailing
  simp only [List.mem_filter, List.mem_range, decide_eq_true_eq]
  constructor
  · rintro ⟨h1, h2⟩; exact ⟨by omega, h2⟩
  · rintro ⟨h1, h2⟩; exact ⟨by omega, h2⟩

theorem trailing_sublist (ts : List Int) (P : Rat) (i : Nat) :
    (trailing ts P i).Sublist (List.range (i + 1)) := by
  unfold trailing; exact List.filter_sublist

theorem trailing_self (ts : List Int) (P : Rat) (i : Nat) (hP : 0 < P) :
    i ∈ trailing ts P i := by
  rw [trailing_mem]; refine ⟨Nat.le_refl _, ?_⟩; grind

theorem windowStat_few (ct : CheckType) (minp : Nat) (xs : List V) (ts : List Int) (P : Rat)
    (i : Nat) (hfew : (present ((trailing ts P i).map (getV xs))).length < minp) :
    windowStat ct minp xs ts P i = .undef := by
  unfold windowStat; simp [hfew]

/-- `range` check: one missing value in the window poisons the statistic (`np.ptp` on NaN). -/
theorem windowStat_range_poisoned (minp : Nat) (xs : List V) (ts : List Int) (P : Rat) (i : Nat)
    (h : (present ((trailing ts P i).map (getV xs))).length
          < ((trailing ts P i).map (getV xs)).length) :
    windowStat .range minp xs ts P i = .undef := by
  unfold windowStat
  simp only [h, if_true, ite_self]

/-- `std` check: fewer than two present values (ddof = 1) ⇒ undefined. -/
theorem windowStat_std_single (minp : Nat) (xs : List V) (ts : List Int) (P : Rat) (i : Nat)
    (h : (present ((trailing ts P i).map (getV xs))).length < 2) :
    windowStat .std minp xs ts P i = .undef := by
  unfold windowStat
  simp only [h, if_true, ite_self]

theorem wholeStat_all_missing (ct : CheckType) (xs : List V) (h : present xs = []) :
    wholeStat ct xs = .undef := by
  unfold wholeStat; simp [h]

theorem attenAt_undef (sus fail : Rat) (x : Rat) : attenAt .undef sus fail (some x) = .unknown := by
  simp [attenAt_ladder, Stat.isUndef]

-- `hx` is not used: it only says that `x` is the value at `i`
set_option linter.unusedVariables false in
/-- `minp` is what `min_obs` / `min_period` ask for. -/
theorem C12_min_obs (ct : CheckType) (minp : Nat) (xs : List V) (ts : List Int)
    (P sus fail : Rat) (i : Nat) (x : Rat)
    (hx : getV xs i = some x)
    (hfew : (present ((trailing ts P i).map (getV xs))).length < minp) :
    attenAt (windowStat ct minp xs ts P i) sus fail (some x) = .unknown := by
  rw [windowStat_few ct minp xs ts P i hfew]; exact attenAt_undef sus fail x

theorem C12_fail_wins (s : Stat) (sus fail : Rat) (x : Rat) (h : s.lt fail = true) :
    attenAt s sus fail (some x) = .fail := by
  simp [attenAt_ladder, Stat.isUndef_of_lt h, h]

theorem C12_missing (s : Stat) (sus fail : Rat) : attenAt s sus fail none = .missing := by
  simp [attenAt_ladder]

theorem C12_good (s : Stat) (sus fail : Rat) (x : Rat) (hs : s.isUndef = false)
    (h1 : s.lt fail = false) (h2 : s.lt sus = false) : attenAt s sus fail (some x) = .good := by
  simp [attenAt_ladder, hs, h1, h2]

theorem C12_suspect (s : Stat) (sus fail : Rat) (x : Rat)
    (h1 : s.lt fail = false) (h2 : s.lt sus = true) : attenAt s sus fail (some x) = .suspect := by
  simp [attenAt_ladder, Stat.isUndef_of_lt h2, h1, h2]

theorem C12_check_type (ct : String) (inp : List V) (ts : List Int) (sus fail : Rat)
    (p : Option Rat) (mo : Option Nat) (mp : Option Rat) (h1 : ct ≠ "std") (h2 : ct ≠ "range") :
    attenuatedTest ct inp ts sus fail p mo mp = .error .value := by
  rw [attenuatedTest, if_neg h1, if_neg h2]
  rfl

/-- Window 120 s = two points; the first point alone has range 0 < 1/2: FAIL. -/
example : (attenuatedTest "range"
      [some 0, some 2, some 0, some 2, some 0, some 0, some 0, some 0, some 8]
      [0, 60, 120, 180, 240, 300, 360, 420, 480] 1 (1/2) (some 120) none none).toObs
    = .flags [4, 1, 1, 1, 1, 4, 4, 4, 1] := by
  decide +kernel

/-- The missing value poisons the window of the point after it: UNKNOWN. -/
example : (attenuatedTest "range"
      [some 0, some (3/4), none, some 0, some 5]
      [0, 60, 120, 180, 240] 1 (1/2) (some 120) none none).toObs
    = .flags [4, 3, 9, 2, 1] := by
  decide +kernel

end IoosQc
