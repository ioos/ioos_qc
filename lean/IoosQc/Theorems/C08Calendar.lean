/-
  The calendar model (`IoosQc.Model.Calendar`) on every integer day or second.  `civilFromDays`
  (H. Hinnant's `civil_from_days`) counts in years that begin on 1 March, so that the leap day
  comes last: day `z` lies in the March-based year `Y` with
  `calYearStart Y ≤ z < calYearStart (Y + 1)` and, `doy` days into it, in the month `mp` with
  `calMonthStart mp ≤ doy < calMonthStart (mp + 1)` (`C08_cal_aux_parts`); the results are read off
  from these parts.  The successor rule `C08_cal_next_day` and the one date `C08_cal_epoch` pin
  `civilFromDays` to the proleptic Gregorian calendar on all of `Int`.
-/
import IoosQc.Model.Calendar

namespace IoosQc

/-- Day number of 1 March of year `Y`; 1970-01-01, day 0, is 719468 days after 1 March of year 0. -/
def calYearStart (Y : Int) : Int := 365 * Y + Y / 4 - Y / 100 + Y / 400 - 719468

/-- Days from 1 March to the first of month `mp`, March = 0 … February = 11. -/
def calMonthStart (mp : Int) : Int := (153 * mp + 2) / 5

/-- Civil year and month of month `mp` of the March-based year `Y`. -/
def calCivilYear (Y mp : Int) : Int := if mp < 10 then Y else Y + 1
def calCivilMonth (mp : Int) : Int := if mp < 10 then mp + 3 else mp - 9

/-- The March-based year `Y` ends with February of the civil year `Y + 1`.  `Y'` is a variable of
    its own so that the lemma applies to `Y − 1, Y` with no `Y − 1 + 1` to normalise (likewise
    `C08_cal_aux_jan1`). -/
theorem C08_cal_aux_yearStart_succ (Y Y' : Int) (h : Y' = Y + 1) :
    calYearStart Y' - calYearStart Y = if isLeap Y' then 366 else 365 := by
  subst h
  unfold calYearStart isLeap
  simp only [Bool.or_eq_true, Bool.and_eq_true, beq_iff_eq, bne_iff_ne, ne_eq]
  split <;> omega

theorem C08_cal_aux_yearStart_succ_values (Y Y' : Int) (h : Y' = Y + 1) :
    calYearStart Y' - calYearStart Y = 365 ∨ calYearStart Y' - calYearStart Y = 366 := by
  rw [C08_cal_aux_yearStart_succ Y Y' h]; split
  · exact Or.inr rfl
  · exact Or.inl rfl

section
-- year `400 * E + 100 * b + 4 * k + j`: era `E`, century `b`, 4-year cycle `k`, year `j`
variable (E b k j : Int) (hr : (0 ≤ b ∧ b ≤ 3) ∧ (0 ≤ k ∧ k ≤ 24) ∧ 0 ≤ j ∧ j ≤ 3)
include hr

theorem C08_cal_aux_yearStart_parts :
    calYearStart (400 * E + 100 * b + 4 * k + j) =
      146097 * E + 36524 * b + 1461 * k + 365 * j - 719468 := by
  unfold calYearStart; omega

theorem C08_cal_aux_isLeap_parts :
    isLeap (400 * E + 100 * b + 4 * k + j + 1) = true ↔ j = 3 ∧ (k < 24 ∨ b = 3) := by
  unfold isLeap
  simp only [Bool.or_eq_true, Bool.and_eq_true, beq_iff_eq, bne_iff_ne, ne_eq]
  omega

theorem C08_cal_aux_yearStart_parts_succ :
    calYearStart (400 * E + 100 * b + 4 * k + j + 1) =
      146097 * E + 36524 * b + 1461 * k + 365 * j - 719468 +
        if j = 3 ∧ (k < 24 ∨ b = 3) then 366 else 365 := by
  have h := C08_cal_aux_yearStart_succ _ (400 * E + 100 * b + 4 * k + j + 1) rfl
  rw [C08_cal_aux_yearStart_parts E b k j hr,
    ite_cond_congr (propext (C08_cal_aux_isLeap_parts E b k j hr))] at h
  omega

/-- The year-of-era formula is right on day `d` of year `100 * b + 4 * k + j` of an era. -/
theorem C08_cal_aux_yoe_of_parts (d N : Int) (hN : N = 36524 * b + 1461 * k + 365 * j + d)
    (hd0 : 0 ≤ d) (hd1 : d ≤ 364 ∨ (d = 365 ∧ j = 3 ∧ (k < 24 ∨ b = 3))) :
    (N - N / 1460 + N / 36524 - N / 146096) / 365 = 100 * b + 4 * k + j := by
  -- `N / 1460` takes off the leap days before `N`, one too many only late in a cycle and always
  -- when `d = 365`; `N / 36524` puts back the one missing per century, and `N / 146096` corrects
  -- that on the last day of the era.  The dividend is therefore
  -- `365 * (100 * b + 4 * k + j) + d` or one less, and at least `365 * (100 * b + 4 * k + j)`.
  have h : ((N / 1460 = 25 * b + k ∧ 24 * b + k + 365 * j + d < 1460) ∨
        (N / 1460 = 25 * b + k + 1 ∧ 1460 ≤ 24 * b + k + 365 * j + d)) ∧
      ((N / 36524 = b ∧ N / 146096 = 0) ∨ (N / 36524 = b + 1 ∧ N / 146096 = 1)) := by omega
  -- what is left is linear in the three quotients
  generalize N / 1460 = u at *
  generalize N / 36524 = v at *
  generalize N / 146096 = w at *
  omega

end

theorem C08_cal_aux_year_parts (Y : Int) :
    ∃ E b k j, ((0 ≤ b ∧ b ≤ 3) ∧ (0 ≤ k ∧ k ≤ 24) ∧ 0 ≤ j ∧ j ≤ 3) ∧
      Y = 400 * E + 100 * b + 4 * k + j :=
  ⟨Y / 400, Y % 400 / 100, Y % 100 / 4, Y % 4, by omega⟩

/-- The year and day-of-year lines of `civilFromDays`, on a day of the March-based year `Y`. -/
theorem C08_cal_aux_year_of_day (z Y e N q : Int) (h1 : calYearStart Y ≤ z)
    (h2 : z < calYearStart (Y + 1)) (he : e = (z + 719468) / 146097)
    (hN : N = z + 719468 - e * 146097)
    (hq : q = (N - N / 1460 + N / 36524 - N / 146096) / 365) :
    q + e * 400 = Y ∧ N - (365 * q + q / 4 - q / 100) = z - calYearStart Y := by
  obtain ⟨E, b, k, j, hr, rfl⟩ := C08_cal_aux_year_parts Y
  rw [C08_cal_aux_yearStart_parts E b k j hr] at h1 ⊢
  rw [C08_cal_aux_yearStart_parts_succ E b k j hr] at h2
  subst hq
  have heE : e = E := by omega
  subst heE
  rw [C08_cal_aux_yoe_of_parts b k j hr (N - (36524 * b + 1461 * k + 365 * j)) N
    (by omega) (by omega) (by omega)]
  omega

theorem C08_cal_aux_exists_year (z : Int) :
    ∃ Y, calYearStart Y ≤ z ∧ z < calYearStart (Y + 1) := by
  obtain ⟨E, N, rfl, h0, h1⟩ : ∃ E N, z = 146097 * E + N - 719468 ∧ 0 ≤ N ∧ N < 146097 :=
    ⟨(z + 719468) / 146097, (z + 719468) % 146097, by omega⟩
  -- the fourth century takes the last day of the era, the fourth year of a cycle its leap day
  obtain ⟨b, hb⟩ : ∃ b, b = min (N / 36524) 3 := ⟨_, rfl⟩
  obtain ⟨k, hk⟩ : ∃ k, k = (N - 36524 * b) / 1461 := ⟨_, rfl⟩
  obtain ⟨j, hj⟩ : ∃ j, j = min ((N - 36524 * b - 1461 * k) / 365) 3 := ⟨_, rfl⟩
  have hr : (0 ≤ b ∧ b ≤ 3) ∧ (0 ≤ k ∧ k ≤ 24) ∧ 0 ≤ j ∧ j ≤ 3 := by omega
  refine ⟨400 * E + 100 * b + 4 * k + j, ?_, ?_⟩
  · rw [C08_cal_aux_yearStart_parts E b k j hr]; omega
  · rw [C08_cal_aux_yearStart_parts_succ E b k j hr]; omega

theorem C08_cal_aux_civil_month (Y mp : Int) (h0 : 0 ≤ mp) (h1 : mp ≤ 11) :
    12 * calCivilYear Y mp + calCivilMonth mp = 12 * Y + mp + 3 ∧
      1 ≤ calCivilMonth mp ∧ calCivilMonth mp ≤ 12 := by
  unfold calCivilYear calCivilMonth; omega

theorem C08_cal_aux_month_iff (doy mp : Int) :
    (5 * doy + 2) / 153 = mp ↔ calMonthStart mp ≤ doy ∧ doy < calMonthStart (mp + 1) := by
  unfold calMonthStart; omega

theorem C08_cal_aux_civil_of_parts (z Y mp doy : Int) (hz : z = calYearStart Y + doy)
    (hY : doy < calYearStart (Y + 1) - calYearStart Y) (h0 : 0 ≤ mp)
    (h1 : calMonthStart mp ≤ doy) (h2 : doy < calMonthStart (mp + 1)) :
    civilFromDays z = (calCivilYear Y mp, calCivilMonth mp, doy - calMonthStart mp + 1) := by
  have hL := C08_cal_aux_yearStart_succ_values Y (Y + 1) rfl
  have hmp : mp ≤ 11 ∧ 0 ≤ doy := by unfold calMonthStart at h1; omega
  obtain ⟨hq, hd⟩ := C08_cal_aux_year_of_day z Y _ _ _ (by omega) (by omega) rfl rfl rfl
  unfold civilFromDays
  dsimp only
  rw [hq, hd, show z - calYearStart Y = doy by omega, (C08_cal_aux_month_iff doy mp).2 ⟨h1, h2⟩]
  unfold calCivilYear calCivilMonth calMonthStart
  congr 1
  omega

theorem C08_cal_aux_parts (z : Int) : ∃ Y mp doy, z = calYearStart Y + doy ∧
    doy < calYearStart (Y + 1) - calYearStart Y ∧ 0 ≤ mp ∧ mp ≤ 11 ∧
    calMonthStart mp ≤ doy ∧ doy < calMonthStart (mp + 1) ∧
    civilFromDays z = (calCivilYear Y mp, calCivilMonth mp, doy - calMonthStart mp + 1) := by
  obtain ⟨Y, h1, h2⟩ := C08_cal_aux_exists_year z
  have hL := C08_cal_aux_yearStart_succ_values Y (Y + 1) rfl
  obtain ⟨doy, hz⟩ : ∃ doy, z = calYearStart Y + doy := ⟨z - calYearStart Y, by omega⟩
  obtain ⟨hm1, hm2⟩ := (C08_cal_aux_month_iff doy _).1 rfl
  exact ⟨Y, _, doy, hz, by omega, by omega, by omega, hm1, hm2,
    C08_cal_aux_civil_of_parts z Y _ doy hz (by omega) (by omega) hm1 hm2⟩

theorem C08_cal_aux_days_eq (y m d : Int) :
    daysFromCivil y m d = calYearStart (if m ≤ 2 then y - 1 else y) +
      calMonthStart (if m > 2 then m - 3 else m + 9) + d - 1 := by
  unfold daysFromCivil
  dsimp only
  generalize (if m ≤ 2 then y - 1 else y) = Y
  generalize (if m > 2 then m - 3 else m + 9) = mp
  unfold calYearStart calMonthStart
  omega

theorem C08_cal_aux_days_of_parts (Y mp d : Int) (h0 : 0 ≤ mp) (h1 : mp ≤ 11) :
    daysFromCivil (calCivilYear Y mp) (calCivilMonth mp) d =
      calYearStart Y + calMonthStart mp + d - 1 := by
  have hc := C08_cal_aux_civil_month Y mp h0 h1
  rw [C08_cal_aux_days_eq,
    show (if calCivilMonth mp ≤ 2 then calCivilYear Y mp - 1 else calCivilYear Y mp) = Y by omega,
    show (if calCivilMonth mp > 2 then calCivilMonth mp - 3 else calCivilMonth mp + 9) = mp by omega]

theorem C08_cal_roundtrip (z : Int) :
    let (y, m, d) := civilFromDays z; daysFromCivil y m d = z := by
  obtain ⟨Y, mp, doy, hz, hY, h0, h11, h1, h2, hc⟩ := C08_cal_aux_parts z
  rw [hc]
  show daysFromCivil (calCivilYear Y mp) (calCivilMonth mp) _ = z
  rw [C08_cal_aux_days_of_parts Y mp _ h0 h11]
  omega

theorem C08_cal_month_range (z : Int) :
    1 ≤ (civilFromDays z).2.1 ∧ (civilFromDays z).2.1 ≤ 12 := by
  obtain ⟨Y, mp, doy, hz, hY, h0, h11, h1, h2, hc⟩ := C08_cal_aux_parts z
  rw [hc]
  exact (C08_cal_aux_civil_month Y mp h0 h11).2

theorem C08_cal_day_range (z : Int) :
    1 ≤ (civilFromDays z).2.2 ∧ (civilFromDays z).2.2 ≤ 31 := by
  obtain ⟨Y, mp, doy, hz, hY, h0, h11, h1, h2, hc⟩ := C08_cal_aux_parts z
  rw [hc]
  show 1 ≤ doy - calMonthStart mp + 1 ∧ doy - calMonthStart mp + 1 ≤ 31
  unfold calMonthStart at *; omega

theorem C08_cal_weekday_range (z : Int) : 0 ≤ weekdayOfDays z ∧ weekdayOfDays z ≤ 6 := by
  unfold weekdayOfDays; omega

theorem C08_cal_weekday_step (z : Int) : weekdayOfDays (z + 7) = weekdayOfDays z := by
  unfold weekdayOfDays; omega

theorem C08_cal_weekday_succ (z : Int) : weekdayOfDays (z + 1) = (weekdayOfDays z + 1) % 7 := by
  unfold weekdayOfDays; omega

theorem C08_cal_aux_period_year (t : Int) :
    periodOf .year t = (civilFromDays (t / 86400)).1 := by rfl
theorem C08_cal_aux_period_month (t : Int) :
    periodOf .month t = (civilFromDays (t / 86400)).2.1 := by rfl
theorem C08_cal_aux_period_day (t : Int) :
    periodOf .day t = (civilFromDays (t / 86400)).2.2 := by rfl
theorem C08_cal_aux_period_hour (t : Int) : periodOf .hour t = t % 86400 / 3600 := by rfl
theorem C08_cal_aux_period_quarter (t : Int) :
    periodOf .quarter t = ((civilFromDays (t / 86400)).2.1 - 1) / 3 + 1 := by rfl
theorem C08_cal_aux_period_dayofyear (t : Int) :
    periodOf .dayofyear t =
      t / 86400 - daysFromCivil (civilFromDays (t / 86400)).1 1 1 + 1 := by rfl
theorem C08_cal_aux_period_dayofweek (t : Int) :
    periodOf .dayofweek t = weekdayOfDays (t / 86400) := by rfl
theorem C08_cal_aux_period_week (t : Int) : periodOf .week t = isoWeek (t / 86400) := by rfl

theorem C08_cal_quarter_range (t : Int) :
    1 ≤ periodOf .quarter t ∧ periodOf .quarter t ≤ 4 := by
  have h := C08_cal_month_range (t / 86400)
  rw [C08_cal_aux_period_quarter]; omega

theorem C08_cal_hour_range (t : Int) : 0 ≤ periodOf .hour t ∧ periodOf .hour t ≤ 23 := by
  rw [C08_cal_aux_period_hour]; omega

theorem C08_cal_period_month_range (t : Int) :
    1 ≤ periodOf .month t ∧ periodOf .month t ≤ 12 := C08_cal_month_range _
theorem C08_cal_period_day_range (t : Int) :
    1 ≤ periodOf .day t ∧ periodOf .day t ≤ 31 := C08_cal_day_range _
theorem C08_cal_period_dayofweek_range (t : Int) :
    0 ≤ periodOf .dayofweek t ∧ periodOf .dayofweek t ≤ 6 := C08_cal_weekday_range _

theorem C08_cal_aux_jan1 (y Y : Int) (h : Y = y - 1) :
    daysFromCivil y 1 1 = calYearStart Y + 306 := by
  subst h; rw [C08_cal_aux_days_eq]; show calYearStart (y - 1) + 306 + 1 - 1 = _; omega

theorem C08_cal_year_length (y : Int) :
    daysFromCivil (y + 1) 1 1 - daysFromCivil y 1 1 = if isLeap y then 366 else 365 := by
  rw [C08_cal_aux_jan1 (y + 1) y (by omega), C08_cal_aux_jan1 y (y - 1) rfl,
    ← C08_cal_aux_yearStart_succ (y - 1) y (by omega)]
  omega

theorem C08_cal_year_bracket (z : Int) :
    daysFromCivil (civilFromDays z).1 1 1 ≤ z ∧ z < daysFromCivil ((civilFromDays z).1 + 1) 1 1 := by
  obtain ⟨Y, mp, doy, hz, hY, h0, h11, h1, h2, hc⟩ := C08_cal_aux_parts z
  rw [hc]
  show daysFromCivil (calCivilYear Y mp) 1 1 ≤ z ∧ z < daysFromCivil (calCivilYear Y mp + 1) 1 1
  unfold calCivilYear calMonthStart at *
  by_cases h : mp < 10
  · have hp := C08_cal_aux_yearStart_succ_values (Y - 1) Y (by omega)
    rw [if_pos h, C08_cal_aux_jan1 Y (Y - 1) rfl, C08_cal_aux_jan1 (Y + 1) Y (by omega)]
    omega
  · rw [if_neg h, C08_cal_aux_jan1 (Y + 1) Y (by omega), C08_cal_aux_jan1 (Y + 1 + 1) (Y + 1) (by omega)]
    omega

theorem C08_cal_aux_dayofyear_days (z : Int) :
    1 ≤ z - daysFromCivil (civilFromDays z).1 1 1 + 1 ∧
      z - daysFromCivil (civilFromDays z).1 1 1 + 1 ≤ 366 := by
  have hb := C08_cal_year_bracket z
  have hl := C08_cal_year_length (civilFromDays z).1
  split at hl <;> omega

theorem C08_cal_dayofyear_range (t : Int) :
    1 ≤ periodOf .dayofyear t ∧ periodOf .dayofyear t ≤ 366 := by
  rw [C08_cal_aux_period_dayofyear]; exact C08_cal_aux_dayofyear_days _

theorem C08_cal_dayofyear_le_year_length (t : Int) :
    periodOf .dayofyear t ≤ if isLeap (periodOf .year t) then 366 else 365 := by
  rw [C08_cal_aux_period_dayofyear, C08_cal_aux_period_year, ← C08_cal_year_length]
  have hb := C08_cal_year_bracket (t / 86400)
  omega

theorem C08_cal_aux_weeks_in_year (y : Int) : isoWeeksInYear y = 52 ∨ isoWeeksInYear y = 53 := by
  unfold isoWeeksInYear
  dsimp only
  split
  · exact Or.inr rfl
  · exact Or.inl rfl

theorem C08_cal_aux_isoWeek_eq (z : Int) :
    isoWeek z =
      if (z - daysFromCivil (civilFromDays z).1 1 1 + 1 - (weekdayOfDays z + 1) + 10) / 7 < 1
        then isoWeeksInYear ((civilFromDays z).1 - 1)
      else if (z - daysFromCivil (civilFromDays z).1 1 1 + 1 - (weekdayOfDays z + 1) + 10) / 7
          > isoWeeksInYear (civilFromDays z).1 then 1
      else (z - daysFromCivil (civilFromDays z).1 1 1 + 1 - (weekdayOfDays z + 1) + 10) / 7 := by rfl

theorem C08_cal_isoWeek_range (z : Int) : 1 ≤ isoWeek z ∧ isoWeek z ≤ 53 := by
  have hd := C08_cal_aux_dayofyear_days z
  have hw := C08_cal_weekday_range z
  have h1 := C08_cal_aux_weeks_in_year ((civilFromDays z).1 - 1)
  have h2 := C08_cal_aux_weeks_in_year (civilFromDays z).1
  rw [C08_cal_aux_isoWeek_eq]
  split
  · omega
  · split <;> omega

theorem C08_cal_week_range (t : Int) : 1 ≤ periodOf .week t ∧ periodOf .week t ≤ 53 := by
  rw [C08_cal_aux_period_week]; exact C08_cal_isoWeek_range _

theorem C08_cal_same_day (p : Period) (hp : p ≠ .hour) (t : Int) (s : Int) (h0 : 0 ≤ s)
    (h1 : s < 86400) (hd : t % 86400 = 0) : periodOf p (t + s) = periodOf p t := by
  have hday : (t + s) / 86400 = t / 86400 := by omega
  cases p
  case hour => exact absurd rfl hp
  all_goals (unfold periodOf; simp only [hday])

theorem C08_cal_same_day_hour (t : Int) (s : Int) (h0 : 0 ≤ s) (h1 : s < 86400)
    (hd : t % 86400 = 0) : periodOf .hour (t + s) = s / 3600 := by
  rw [C08_cal_aux_period_hour]
  have : (t + s) % 86400 = s := by omega
  rw [this]

def calMonthLength (y m : Int) : Int :=
  if m = 2 then (if isLeap y then 29 else 28)
  else if m = 4 ∨ m = 6 ∨ m = 9 ∨ m = 11 then 30 else 31

/-- Gregorian successor of a date `(y, m, d)` -/
def calNextDate (ymd : Int × Int × Int) : Int × Int × Int :=
  if ymd.2.2 < calMonthLength ymd.1 ymd.2.1 then (ymd.1, ymd.2.1, ymd.2.2 + 1)
  else if ymd.2.1 < 12 then (ymd.1, ymd.2.1 + 1, 1)
  else (ymd.1 + 1, 1, 1)

theorem C08_cal_aux_monthLength_table (y mp : Int) (h0 : 0 ≤ mp) (h1 : mp ≤ 10) :
    calMonthLength y (calCivilMonth mp) = calMonthStart (mp + 1) - calMonthStart mp := by
  have h : mp = 0 ∨ mp = 1 ∨ mp = 2 ∨ mp = 3 ∨ mp = 4 ∨ mp = 5 ∨ mp = 6 ∨ mp = 7 ∨ mp = 8 ∨
      mp = 9 ∨ mp = 10 := by omega
  rcases h with rfl | rfl | rfl | rfl | rfl | rfl | rfl | rfl | rfl | rfl | rfl <;> rfl

/-- A month ends where the next one begins, February where the March-based year ends. -/
theorem C08_cal_aux_monthLength_parts (Y mp : Int) (h0 : 0 ≤ mp) (h1 : mp ≤ 11) :
    calMonthLength (calCivilYear Y mp) (calCivilMonth mp) =
      min (calMonthStart (mp + 1)) (calYearStart (Y + 1) - calYearStart Y) - calMonthStart mp := by
  have hL := C08_cal_aux_yearStart_succ Y (Y + 1) rfl
  by_cases h : mp ≤ 10
  · rw [C08_cal_aux_monthLength_table _ mp h0 h]
    unfold calMonthStart
    split at hL <;> omega
  · have : mp = 11 := by omega
    subst this
    show (if isLeap (Y + 1) then 29 else 28) = min 367 _ - 337
    by_cases hl : isLeap (Y + 1) = true
    · rw [if_pos hl] at hL ⊢; omega
    · rw [if_neg hl] at hL ⊢; omega

/-- In March-based terms the next month is the next value of `12 * Y + mp`. -/
theorem C08_cal_aux_next_month (Y mp Y' mp' : Int) (h0 : 0 ≤ mp) (h1 : mp ≤ 11) (h0' : 0 ≤ mp')
    (h1' : mp' ≤ 11) (h : 12 * Y' + mp' = 12 * Y + mp + 1) :
    (calCivilYear Y' mp', calCivilMonth mp', (1 : Int)) =
      if calCivilMonth mp < 12 then (calCivilYear Y mp, calCivilMonth mp + 1, 1)
      else (calCivilYear Y mp + 1, 1, 1) := by
  have hc := C08_cal_aux_civil_month Y mp h0 h1
  have hc' := C08_cal_aux_civil_month Y' mp' h0' h1'
  by_cases hm : calCivilMonth mp < 12
  · rw [if_pos hm, show calCivilYear Y' mp' = calCivilYear Y mp by omega,
      show calCivilMonth mp' = calCivilMonth mp + 1 by omega]
  · rw [if_neg hm, show calCivilYear Y' mp' = calCivilYear Y mp + 1 by omega,
      show calCivilMonth mp' = 1 by omega]

theorem C08_cal_next_day (z : Int) : civilFromDays (z + 1) = calNextDate (civilFromDays z) := by
  obtain ⟨Y, mp, doy, hz, hY, h0, h11, h1, h2, hc⟩ := C08_cal_aux_parts z
  rw [hc]
  simp only [calNextDate]
  rw [C08_cal_aux_monthLength_parts Y mp h0 h11]
  have hL := C08_cal_aux_yearStart_succ_values Y (Y + 1) rfl
  by_cases hy : doy + 1 < calYearStart (Y + 1) - calYearStart Y
  · by_cases hm : doy + 1 < calMonthStart (mp + 1)
    -- the next day of the same month
    · rw [if_pos (by omega),
        C08_cal_aux_civil_of_parts (z + 1) Y mp (doy + 1) (by omega) hy h0 (by omega) hm,
        show doy + 1 - calMonthStart mp + 1 = doy - calMonthStart mp + 1 + 1 by omega]
    -- the first of the next month of the same March-based year
    · have hmp : mp ≤ 10 ∧ doy + 1 < calMonthStart (mp + 1 + 1) := by
        unfold calMonthStart at *; omega
      rw [if_neg (by omega),
        C08_cal_aux_civil_of_parts (z + 1) Y (mp + 1) (doy + 1) (by omega) hy (by omega) (by omega)
          hmp.2,
        show doy + 1 - calMonthStart (mp + 1) + 1 = 1 by omega]
      exact C08_cal_aux_next_month Y mp Y (mp + 1) h0 h11 (by omega) (by omega) (by omega)
  -- the last day of February, followed by 1 March
  · have hmp : mp = 11 := by unfold calMonthStart at *; omega
    have hL' := C08_cal_aux_yearStart_succ_values (Y + 1) (Y + 1 + 1) rfl
    rw [if_neg (by omega),
      C08_cal_aux_civil_of_parts (z + 1) (Y + 1) 0 0 (by omega) (by omega) (by omega) (by decide)
        (by decide)]
    exact C08_cal_aux_next_month Y mp (Y + 1) 0 h0 h11 (by omega) (by omega) (by omega)

theorem C08_cal_day_le_month_length (z : Int) :
    (civilFromDays z).2.2 ≤ calMonthLength (civilFromDays z).1 (civilFromDays z).2.1 := by
  obtain ⟨Y, mp, doy, hz, hY, h0, h11, h1, h2, hc⟩ := C08_cal_aux_parts z
  rw [hc]
  dsimp only
  rw [C08_cal_aux_monthLength_parts Y mp h0 h11]
  omega

theorem C08_cal_civil_injective (z₁ z₂ : Int) (h : civilFromDays z₁ = civilFromDays z₂) :
    z₁ = z₂ := by
  have h1 := C08_cal_roundtrip z₁
  have h2 := C08_cal_roundtrip z₂
  dsimp only at h1 h2
  rw [h] at h1
  exact h1.symm.trans h2

theorem C08_cal_roundtrip_civil (y m d : Int) (hm1 : 1 ≤ m) (hm2 : m ≤ 12) (hd1 : 1 ≤ d)
    (hd2 : d ≤ calMonthLength y m) : civilFromDays (daysFromCivil y m d) = (y, m, d) := by
  obtain ⟨Y, mp, h0, h11, rfl, rfl⟩ : ∃ Y mp, 0 ≤ mp ∧ mp ≤ 11 ∧ y = calCivilYear Y mp ∧
      m = calCivilMonth mp :=
    ⟨if m ≤ 2 then y - 1 else y, if m > 2 then m - 3 else m + 9,
      by unfold calCivilYear calCivilMonth; omega⟩
  rw [C08_cal_aux_monthLength_parts Y mp h0 h11] at hd2
  rw [C08_cal_aux_days_of_parts Y mp d h0 h11,
    C08_cal_aux_civil_of_parts _ Y mp (calMonthStart mp + d - 1) (by omega) (by omega) h0 (by omega)
      (by omega),
    show calMonthStart mp + d - 1 - calMonthStart mp + 1 = d by omega]

/-- Day 0 is Thursday 1970-01-01. -/
theorem C08_cal_epoch : civilFromDays 0 = (1970, 1, 1) ∧ weekdayOfDays 0 = 3 := by decide +kernel

example : daysFromCivil 2018 12 31 = 17896 := by decide +kernel
example : daysFromCivil 2021 1 1 = 18628 := by decide +kernel
example : daysFromCivil 2016 1 3 = 16803 := by decide +kernel
example : daysFromCivil 2020 12 31 = 18627 := by decide +kernel
-- a Monday: week 1 of 2019
example : periodOf .week (daysFromCivil 2018 12 31 * 86400) = 1 := by decide +kernel
-- a Friday: still week 53 of 2020
example : periodOf .week (daysFromCivil 2021 1 1 * 86400) = 53 := by decide +kernel
-- a Sunday: still week 53 of 2015
example : periodOf .week (daysFromCivil 2016 1 3 * 86400) = 53 := by decide +kernel
example : periodOf .week (daysFromCivil 2020 12 31 * 86400) = 53 := by decide +kernel
example : periodOf .week (daysFromCivil 2020 12 31 * 86400 + 86399) = 53 := by decide +kernel
example : periodOf .dayofyear (daysFromCivil 2020 12 31 * 86400) = 366 := by decide +kernel
example : periodOf .dayofyear (daysFromCivil 2021 12 31 * 86400) = 365 := by decide +kernel
example : civilFromDays 18321 = (2020, 2, 29) := by decide +kernel
example : civilFromDays (-1) = (1969, 12, 31) := by decide +kernel
example : civilFromDays 47846 = (2100, 12, 31) := by decide +kernel
example : civilFromDays 47482 = (2100, 1, 1) := by decide +kernel
example : isoWeeksInYear 2020 = 53 ∧ isoWeeksInYear 2015 = 53 ∧ isoWeeksInYear 2021 = 52 := by
  decide +kernel

end IoosQc
