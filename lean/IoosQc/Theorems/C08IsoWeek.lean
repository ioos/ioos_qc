/-
  `isoWeek` (IoosQc.Model.Calendar) computes the ISO-8601 week number: weeks run Monday–Sunday, a
  week belongs to the year that contains its Thursday, and the week number of a day is 1 + the
  number of whole weeks between the Thursday of its week and 1 January of that Thursday's year
  (`isoWeekSpec`).  The Thursday of the week of a day of year `y` lies in `y − 1`, `y` or `y + 1`;
  `C08_cal_aux_thursdays_in_year` says in which by comparing its week index with
  `isoWeeksInYear`, as `isoWeek` does.
-/
import IoosQc.Theorems.C08Calendar

namespace IoosQc

/-- The Thursday of the Monday–Sunday week containing day `z`. -/
def isoThursday (z : Int) : Int := z - weekdayOfDays z + 3

def isoWeekSpec (z : Int) : Int :=
  let th := isoThursday z
  let y := (civilFromDays th).1
  (th - daysFromCivil y 1 1) / 7 + 1

theorem C08_cal_aux_isoWeekSpec_eq (z : Int) :
    isoWeekSpec z =
      (isoThursday z - daysFromCivil (civilFromDays (isoThursday z)).1 1 1) / 7 + 1 := by rfl

theorem C08_cal_isoThursday_weekday (z : Int) :
    weekdayOfDays (isoThursday z) = 3 ∧
      isoThursday z - weekdayOfDays (isoThursday z) = z - weekdayOfDays z := by
  unfold isoThursday weekdayOfDays; omega

theorem C08_cal_isoThursday_near (z : Int) : z - 3 ≤ isoThursday z ∧ isoThursday z ≤ z + 3 := by
  unfold isoThursday weekdayOfDays; omega

theorem C08_cal_aux_jan1_mono (a b : Int) (h : a ≤ b) :
    daysFromCivil a 1 1 ≤ daysFromCivil b 1 1 := by
  rw [C08_cal_aux_jan1 a _ rfl, C08_cal_aux_jan1 b _ rfl]; unfold calYearStart; omega

theorem C08_cal_year_of_bracket (d y : Int) (h1 : daysFromCivil y 1 1 ≤ d)
    (h2 : d < daysFromCivil (y + 1) 1 1) : (civilFromDays d).1 = y := by
  have hb := C08_cal_year_bracket d
  generalize (civilFromDays d).1 = y' at *
  by_cases hlt : y' < y
  · have := C08_cal_aux_jan1_mono (y' + 1) y (by omega); omega
  · by_cases hgt : y < y'
    · have := C08_cal_aux_jan1_mono (y + 1) y' (by omega); omega
    · omega

/-- `y'` is a variable for the reason given at `C08_cal_aux_yearStart_succ`. -/
theorem C08_cal_aux_year_len_values (y y' : Int) (h : y' = y + 1) :
    daysFromCivil y' 1 1 - daysFromCivil y 1 1 = 365 ∨
      daysFromCivil y' 1 1 - daysFromCivil y 1 1 = 366 := by
  subst h; rw [C08_cal_year_length]; split
  · exact Or.inr rfl
  · exact Or.inl rfl

/-- A Thursday `t` lies before the end `J'` of a year that begins on day `J` exactly when its
    week index from `J` is at most the `W` that `isoWeeksInYear` gives such a year: a fact about
    integers (`leap` is any proposition). -/
theorem C08_cal_aux_thursdays (J J' W t : Int) (leap : Prop) [Decidable leap]
    (hL : J' - J = if leap then 366 else 365)
    (hW : W = if (J + 3) % 7 = 3 ∨ (leap ∧ (J + 3) % 7 = 2) then 53 else 52)
    (ht : (t + 3) % 7 = 3) : t < J' ↔ (t - J) / 7 + 1 ≤ W := by
  by_cases h : leap
  · simp only [h, if_true, true_and] at hL hW; omega
  · simp only [h, if_false, false_and, or_false] at hL hW; omega

theorem C08_cal_aux_thursdays_in_year (y y' t : Int) (h : y' = y + 1) (ht : weekdayOfDays t = 3) :
    t < daysFromCivil y' 1 1 ↔ (t - daysFromCivil y 1 1) / 7 + 1 ≤ isoWeeksInYear y := by
  subst h
  refine C08_cal_aux_thursdays _ _ _ t (isLeap y = true) (C08_cal_year_length y) ?_ ht
  unfold isoWeeksInYear weekdayOfDays
  simp only [Bool.or_eq_true, Bool.and_eq_true, beq_iff_eq]

theorem C08_cal_isoWeek_spec (z : Int) : isoWeek z = isoWeekSpec z := by
  have hb := C08_cal_year_bracket z
  have hn := C08_cal_isoThursday_near z
  have ht := (C08_cal_isoThursday_weekday z).1
  have ht7 : weekdayOfDays (isoThursday z + 7) = 3 := by rw [C08_cal_weekday_step]; exact ht
  have hth : isoThursday z = z - weekdayOfDays z + 3 := rfl
  rw [C08_cal_aux_isoWeek_eq, C08_cal_aux_isoWeekSpec_eq]
  generalize isoThursday z = th at *
  generalize (civilFromDays z).1 = y at *
  rw [show (z - daysFromCivil y 1 1 + 1 - (weekdayOfDays z + 1) + 10) / 7 =
    (th - daysFromCivil y 1 1) / 7 + 1 by omega]
  have hr : daysFromCivil y 1 1 - 3 ≤ th ∧ th < daysFromCivil (y + 1) 1 1 + 3 := by omega
  clear hb hn hth
  by_cases c1 : th < daysFromCivil y 1 1
  -- the last Thursday of year `y - 1`: the next one is past its end
  · have hLp := C08_cal_aux_year_len_values (y - 1) y (by omega)
    have hp := C08_cal_aux_thursdays_in_year (y - 1) y th (by omega) ht
    have hp7 := C08_cal_aux_thursdays_in_year (y - 1) y (th + 7) (by omega) ht7
    rw [C08_cal_year_of_bracket th (y - 1) (by omega) (by rw [show y - 1 + 1 = y by omega]; omega)]
    omega
  · have h0 := C08_cal_aux_thursdays_in_year y (y + 1) th rfl ht
    by_cases c2 : th < daysFromCivil (y + 1) 1 1
    -- a Thursday of year `y`
    · rw [C08_cal_year_of_bracket th y (by omega) c2]
      omega
    -- the first Thursday of year `y + 1`
    · have hLn := C08_cal_aux_year_len_values (y + 1) (y + 1 + 1) rfl
      rw [C08_cal_year_of_bracket th (y + 1) (by omega) (by omega)]
      omega

theorem C08_cal_isoWeek_same_week (z z' : Int)
    (h : z - weekdayOfDays z = z' - weekdayOfDays z') : isoWeek z = isoWeek z' := by
  rw [C08_cal_isoWeek_spec, C08_cal_isoWeek_spec, C08_cal_aux_isoWeekSpec_eq,
    C08_cal_aux_isoWeekSpec_eq]
  have : isoThursday z = isoThursday z' := by unfold isoThursday; omega
  rw [this]

theorem C08_cal_isoWeek_thursday (z : Int) : isoWeek (isoThursday z) = isoWeek z :=
  C08_cal_isoWeek_same_week _ _ (C08_cal_isoThursday_weekday z).2

theorem C08_cal_aux_isoThursday_step (z : Int) : isoThursday (z + 7) = isoThursday z + 7 := by
  unfold isoThursday weekdayOfDays; omega

theorem C08_cal_aux_year_next_week (t : Int) :
    (civilFromDays (t + 7)).1 = (civilFromDays t).1 ∧
        t + 7 < daysFromCivil ((civilFromDays t).1 + 1) 1 1 ∨
      (civilFromDays (t + 7)).1 = (civilFromDays t).1 + 1 ∧
        daysFromCivil ((civilFromDays t).1 + 1) 1 1 ≤ t + 7 := by
  have hb := C08_cal_year_bracket t
  generalize (civilFromDays t).1 = y at *
  have hLn := C08_cal_aux_year_len_values (y + 1) (y + 1 + 1) rfl
  by_cases c : t + 7 < daysFromCivil (y + 1) 1 1
  · exact Or.inl ⟨C08_cal_year_of_bracket _ _ (by omega) c, c⟩
  · exact Or.inr ⟨C08_cal_year_of_bracket _ _ (by omega) (by omega), by omega⟩

theorem C08_cal_isoWeek_next_week (z : Int) :
    isoWeek (z + 7) =
      if (civilFromDays (isoThursday (z + 7))).1 = (civilFromDays (isoThursday z)).1
        then isoWeek z + 1 else 1 := by
  rw [C08_cal_isoWeek_spec, C08_cal_isoWeek_spec, C08_cal_aux_isoWeekSpec_eq,
    C08_cal_aux_isoWeekSpec_eq, C08_cal_aux_isoThursday_step]
  generalize isoThursday z = th
  have hb := C08_cal_year_bracket th
  rcases C08_cal_aux_year_next_week th with ⟨hy, c⟩ | ⟨hy, c⟩
  · rw [hy, if_pos rfl]; omega
  · rw [hy, if_neg (by omega)]; omega

theorem C08_cal_isoWeek_next_week_year (z : Int) :
    (civilFromDays (isoThursday (z + 7))).1 = (civilFromDays (isoThursday z)).1 ∨
      (civilFromDays (isoThursday (z + 7))).1 = (civilFromDays (isoThursday z)).1 + 1 := by
  rw [C08_cal_aux_isoThursday_step]
  exact (C08_cal_aux_year_next_week _).imp And.left And.left

theorem C08_cal_aux_jan_d (y d : Int) : daysFromCivil y 1 d = daysFromCivil y 1 1 + (d - 1) := by
  rw [C08_cal_aux_days_eq, C08_cal_aux_days_eq]; omega

theorem C08_cal_week1_contains_jan4 (y : Int) : isoWeek (daysFromCivil y 1 4) = 1 := by
  rw [C08_cal_isoWeek_spec, C08_cal_aux_isoWeekSpec_eq, C08_cal_aux_jan_d y 4]
  have hL := C08_cal_aux_year_len_values y (y + 1) rfl
  have hn := C08_cal_isoThursday_near (daysFromCivil y 1 1 + (4 - 1))
  generalize isoThursday (daysFromCivil y 1 1 + (4 - 1)) = th at *
  rw [C08_cal_year_of_bracket th y (by omega) (by omega)]; omega

/-- Week 1 is the week of the year's first Thursday. -/
theorem C08_cal_isoWeek_one_iff (z : Int) :
    isoWeek z = 1 ↔
      isoThursday z < daysFromCivil (civilFromDays (isoThursday z)).1 1 1 + 7 := by
  rw [C08_cal_isoWeek_spec, C08_cal_aux_isoWeekSpec_eq]
  have hb := C08_cal_year_bracket (isoThursday z)
  omega

-- 2018-12-31 (Monday): its Thursday is 2019-01-03, week 1 of 2019
example : isoWeekSpec 17896 = 1 := by decide +kernel
-- 2021-01-01 (Friday): its Thursday is 2020-12-31, week 53 of 2020
example : isoWeekSpec 18628 = 53 := by decide +kernel
-- 2016-01-03 (Sunday): its Thursday is 2015-12-31, week 53 of 2015
example : isoWeekSpec 16803 = 53 := by decide +kernel
-- 2020-12-31 (Thursday), week 53 of 2020
example : isoWeekSpec 18627 = 53 := by decide +kernel
example : isoWeekSpec (daysFromCivil 2018 12 31) = 1 ∧ isoWeekSpec (daysFromCivil 2021 1 1) = 53 ∧
    isoWeekSpec (daysFromCivil 2016 1 3) = 53 ∧ isoWeekSpec (daysFromCivil 2020 12 31) = 53 := by
  decide +kernel
example : isoThursday 17896 = 17899 ∧ civilFromDays 17899 = (2019, 1, 3) := by decide +kernel

end IoosQc
