/-
  C09 — spike_test: a present end point is UNKNOWN (a missing one UNKNOWN or MISSING: the model
  gives MISSING under the average method, UNKNOWN under the differential one), a missing interior
  point is MISSING, and an interior point with both neighbours present is classified by its spike
  magnitude against the thresholds with strict comparisons, FAIL before SUSPECT.  Where a
  neighbour is missing the property is silent (the model gives MISSING).  An unknown method
  string ⇒ ValueError.
-/
import IoosQc.Lemmas.Ladder

namespace IoosQc

theorem rmin_eq_lo2 (a b : Rat) : rmin a b = lo2 a b := rfl

theorem spikeAt_spec (m : SpikeMethod) (sus fail : Option Rat) (xs : List V) (i : Nat) :
    spikeAt m sus fail xs i ∈ spikeSpecAt m sus fail xs i := by
  rw [spikeAt_ladder, ← Bool.decide_or]
  unfold spikeSpecAt
  by_cases hi : i = 0 ∨ i + 1 = xs.length
  · -- an end point: UNKNOWN, unless the `diff` entry the code left there is masked
    rw [if_pos hi, decide_eq_true hi, spikeDiff_isNone_end m xs i hi]
    cases getV xs i <;> cases m <;> simp
  · unfold spikeDiff
    rw [if_neg hi, if_neg hi, decide_eq_false hi]
    cases getV xs i with
    | none => cases getV xs (i - 1) <;> simp [spikeMag]
    | some x =>
      cases getV xs (i - 1) with
      | none => exact mem_anyFlag _
      | some p =>
        cases getV xs (i + 1) with
        | none => exact mem_anyFlag _
        | some q =>
          rw [spikeMag_some]
          cases sus <;> cases fail <;> exact ladder_mem false false _ _

/-- C09; the property at one point is `spikeSpecAt` (Props/Spec.lean). -/
theorem C09_spike (method : String) (sus fail : Option Rat) (inp : List V) :
    conforms (spikeSpec method sus fail inp) (spikeTest method sus fail inp).toObs = true := by
  unfold spikeSpec spikeTest
  by_cases h1 : method = "average"
  · simp only [h1, if_true]
    exact conforms_flags_range _ _ _ (fun i _ => spikeAt_spec .average sus fail inp i)
  · by_cases h2 : method = "differential"
    · subst h2
      simp only [h1, if_false, if_true]
      exact conforms_flags_range _ _ _ (fun i _ => spikeAt_spec .differential sus fail inp i)
    · simp only [if_neg h1, if_neg h2]
      rfl

theorem C09_endpoints (m : SpikeMethod) (sus fail : Option Rat) (xs : List V) (i : Nat) (x : Rat)
    (hi : i = 0 ∨ i + 1 = xs.length) (hx : getV xs i = some x) :
    spikeAt m sus fail xs i = .unknown := by
  have h := spikeAt_spec m sus fail xs i
  unfold spikeSpecAt at h
  simpa [hi, hx] using h

theorem C09_missing (m : SpikeMethod) (sus fail : Option Rat) (xs : List V) (i : Nat)
    (h0 : 0 < i) (hn : i + 1 < xs.length) (hx : getV xs i = none) :
    spikeAt m sus fail xs i = .missing := by
  rw [spikeAt_ladder, ladder_eq_missing, spikeDiff_isNone m xs i (by omega), hx]
  simp

theorem C09_threshold_equality (sus fail : Option Rat) (xs : List V) (i : Nat) (p x q : Rat)
    (h0 : 0 < i) (hn : i + 1 < xs.length)
    (hp : getV xs (i-1) = some p) (hx : getV xs i = some x) (hq : getV xs (i+1) = some q)
    (hs : sus = some (rabs (x - (p+q)/2))) (hf : fail = some (rabs (x - (p+q)/2))) :
    spikeAt .average sus fail xs i = .good := by
  have hi : ¬ (i = 0 ∨ i + 1 = xs.length) := by omega
  have h := spikeAt_spec .average sus fail xs i
  unfold spikeSpecAt at h
  simpa [hi, hx, hp, hq, hs, hf] using h

theorem C09_threshold_equality_diff (sus fail : Option Rat) (xs : List V) (i : Nat) (p x q : Rat)
    (h0 : 0 < i) (hn : i + 1 < xs.length)
    (hp : getV xs (i-1) = some p) (hx : getV xs i = some x) (hq : getV xs (i+1) = some q)
    (d : Rat) (hd : spikeMag .differential (some p) (some x) (some q) = some d)
    (hs : sus = some d) (hf : fail = some d) :
    spikeAt .differential sus fail xs i = .good := by
  have hi : ¬ (i = 0 ∨ i + 1 = xs.length) := by omega
  rw [spikeAt_ladder, ladder_eq_good, spikeDiff, if_neg hi, hp, hx, hq, hd, hs, hf]
  simpa using hi

-- `hs` is not used: FAIL needs the fail threshold exceeded, nothing of the suspect one
set_option linter.unusedVariables false in
theorem C09_fail_over_suspect (s f : Rat) (xs : List V) (i : Nat) (p x q : Rat)
    (h0 : 0 < i) (hn : i + 1 < xs.length)
    (hp : getV xs (i-1) = some p) (hx : getV xs i = some x) (hq : getV xs (i+1) = some q)
    (hs : s < rabs (x - (p+q)/2)) (hf : f < rabs (x - (p+q)/2)) :
    spikeAt .average (some s) (some f) xs i = .fail := by
  have hi : ¬ (i = 0 ∨ i + 1 = xs.length) := by omega
  have h := spikeAt_spec .average (some s) (some f) xs i
  unfold spikeSpecAt at h
  simpa [hi, hx, hp, hq, hf] using h

theorem C09_method (method : String) (sus fail : Option Rat) (inp : List V)
    (h1 : method ≠ "average") (h2 : method ≠ "differential") :
    spikeTest method sus fail inp = .error .value := by
  rw [spikeTest, if_neg h1, if_neg h2]
  rfl

example : (spikeTest "average" (some 1) (some 2)
    [some 1, some 5, some 1, some 2, none, some 1, some 1]).toObs
    = .flags [2, 4, 4, 9, 9, 9, 2] := by
  decide +kernel

/-- Under the differential method the point after the spike is GOOD. -/
example : (spikeTest "differential" (some 1) (some 2)
    [some 1, some 5, some 1, some 2, none, some 1, some 1]).toObs
    = .flags [2, 4, 1, 9, 9, 9, 2] := by
  decide +kernel

/-- At index 1 the magnitude equals the fail threshold: SUSPECT. -/
example : (spikeTest "average" (some 1) (some 2)
    [some 0, some 3, some 2, some 2, some 2, none]).toObs
    = .flags [2, 3, 1, 1, 9, 9] := by
  decide +kernel

example : (spikeTest "median" (some 1) (some 2) [some 1, some 5, some 1]).toObs = .error .value := by
  decide +kernel

end IoosQc
