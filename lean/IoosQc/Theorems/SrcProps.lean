/-
  The property theorems stated DIRECTLY about the programs `harness/translate.py` regenerates from /repo's source: each is the
  refinement `Cxx_src_*` (translated program = model) followed by the property theorem about the model.  On every run the
  property's source pin re-derives the refinement for the definition generated from the CURRENT source, so these are statements
  about what the code says now.  `conforms (spec …)` is the predicate the driver evaluates on the real function's output.
-/
import IoosQc.Theorems.NpSrcTests
import IoosQc.Theorems.NpSrcGlue
import IoosQc.Theorems.C03
import IoosQc.Theorems.C04
import IoosQc.Theorems.C08
import IoosQc.Theorems.C09
import IoosQc.Theorems.C10
import IoosQc.Theorems.C11
import IoosQc.Theorems.C12
import IoosQc.Theorems.C13
import IoosQc.Theorems.C14
import IoosQc.Theorems.C19
import IoosQc.Theorems.C01
import IoosQc.Theorems.C02
import IoosQc.Theorems.C16
import IoosQc.Theorems.C17

namespace IoosQc.NpSrc
open IoosQc.Np

theorem C03_prog_gross (inp : List V) (f : SeqArg) (s : Option SeqArg) :
    conforms (grossSpec f s inp) (gross_range_test inp f s).toObs = true := by
  rw [C03_src_gross]; exact C03_gross f s inp

theorem C03_prog_valid (inp : List V) (span : V × V) (si ei : Bool) (junk : List Fl) :
    conforms (.flags (inp.map (validSpecAt span.1 span.2 si ei))) (valid_range_test inp span si ei junk).toObs = true := by
  rw [C03_src_valid]; exact C03_valid span.1 span.2 si ei inp

theorem C04_prog_compare (vs : List (List IoosQc.Cell)) : C04.holds vs (qartod_compare vs).toObs = true := by
  rw [C04_src_compare]; exact C04_main vs

theorem climatology_lengths {ms : List Member} {inp : List V} {t : List Int} {z : List V}
    (h : (TestCall.climatology ms inp t z).inDom = true) : t.length = inp.length ∧ z.length = inp.length := by
  simp only [TestCall.inDom, Bool.and_eq_true, beq_iff_eq] at h
  exact ⟨h.1.1.symm, h.1.2.symm⟩

theorem C08_prog_climatology (periodOf : Period → Int → Int) (ms : List Member) (inp : List V) (t : List Int) (z : List V)
    (h : (TestCall.climatology ms inp t z).inDom = true) :
    conforms ((TestCall.climatology ms inp t z).spec periodOf) (climatology_test periodOf ms inp t z).toObs = true := by
  rw [C08_src_climatology periodOf ms inp t z (climatology_lengths h).1 (climatology_lengths h).2]
  exact C08_climatology periodOf ms inp t z h

theorem C09_prog_spike (inp : List V) (sus fail : Option Rat) (method : String) :
    conforms (spikeSpec method sus fail inp) (spike_test inp sus fail method).toObs = true := by
  rw [C09_src_spike]; exact C09_spike method sus fail inp

theorem C10_prog_roc (inp : List V) (ts : List Int) (thr : Rat) (h : (TestCall.roc inp ts thr).inDom = true) :
    conforms (rocSpec inp ts thr) (rate_of_change_test inp ts thr).toObs = true := by
  rw [C10_src_roc]; exact C10_roc inp ts thr h

theorem C10_prog_speed (lon lat : List V) (ts : List Int) (sus fail : Rat) (hops : List V)
    (h : (TestCall.speed lon lat ts sus fail hops).inDom = true) :
    conforms (speedSpec lon lat ts sus fail hops) (speed_test lon lat ts sus fail hops).toObs = true := by
  rw [C10_src_speed]; exact C10_speed lon lat ts sus fail hops h

theorem C11_prog_flat (inp : List V) (ts : List Int) (sus fail tol : Rat) (h : (TestCall.flatLine inp ts sus fail tol).inDom = true) :
    conforms (flatSpec inp ts sus fail tol) (flat_line_test inp ts sus fail tol).toObs = true := by
  rw [C11_src_flat]; exact C11_flat inp ts sus fail tol h

theorem C12_prog_atten (checkType : String) (inp : List V) (ts : List Int) (sus fail : Rat) (period : Option Rat)
    (minObs : Option Nat) (minPeriod : Option Rat) :
    conforms (attenSpec checkType inp ts sus fail period minObs minPeriod)
      (attenuated_signal_test inp ts sus fail period minObs minPeriod checkType).toObs = true := by
  rw [C12_src_atten]; exact C12_atten checkType inp ts sus fail period minObs minPeriod

theorem C13_prog_density (rho z : List V) (sus fail : Option Rat) :
    conforms (densSpec rho z sus fail) (density_inversion_test rho z sus fail).toObs = true := by
  rw [C13_src_density]; exact C13_density rho z sus fail

theorem C13_prog_pressure (p : List V) :
    conforms (.flags ((List.range p.length).map (pressSpecAt p))) (pressure_increasing_test p).toObs = true := by
  rw [C13_src_pressure]; exact C13_pressure p

theorem C14_prog_location (lon lat : List V) (bbox : SeqArg) (rm : Option Rat) (hops : List V)
    (h : (TestCall.location lon lat bbox rm hops).inDom = true) :
    conforms (locSpec lon lat bbox rm hops) (location_test lon lat bbox rm hops).toObs = true := by
  rw [C14_src_location]; exact C14_location lon lat bbox rm hops h

theorem C19_prog_save (c : StoreCase) (h : noCollision c = true) :
    C19.holds c (save c.rs defaultAxes c.writeData c.writeAxes c.inc c.exc) = true := by
  rw [C19_src_save]; exact C19_main c h

/-- `TestCall.run` with every test replaced by the translated program (`junk`: what a caller's masked array may hold under its
    mask, seen only by `valid_range_test`) -/
def runSrc (periodOf : Period → Int → Int) (junk : List Fl) : TestCall → Res
  | .gross f s inp => gross_range_test inp f s
  | .valid lo hi si ei inp => valid_range_test inp (lo, hi) si ei junk
  | .location lon lat b r h => location_test lon lat b r h
  | .climatology ms inp t z => climatology_test periodOf ms inp t z
  | .spike m s f inp => spike_test inp s f m
  | .roc inp t thr => rate_of_change_test inp t thr
  | .flatLine inp t s f tol => flat_line_test inp t s f tol
  | .attenuated ct inp t s f p mo mp => attenuated_signal_test inp t s f p mo mp ct
  | .density rho z s f => density_inversion_test rho z s f
  | .pressure p => pressure_increasing_test p
  | .speed lon lat t s f h => speed_test lon lat t s f h

/-- `h` is used by `climatology` only: its three columns have one length. -/
theorem C01_prog_run (periodOf : Period → Int → Int) (junk : List Fl) (c : TestCall) (h : c.inDom = true) :
    runSrc periodOf junk c = c.run periodOf := by
  cases c with
  | gross f s inp => exact C03_src_gross inp f s
  | valid lo hi si ei inp => exact C03_src_valid inp (lo, hi) si ei junk
  | location lon lat b r hh => exact C14_src_location lon lat b r hh
  | climatology ms inp t z => exact C08_src_climatology periodOf ms inp t z (climatology_lengths h).1 (climatology_lengths h).2
  | spike m s f inp => exact C09_src_spike inp s f m
  | roc inp t thr => exact C10_src_roc inp t thr
  | flatLine inp t s f tol => exact C11_src_flat inp t s f tol
  | attenuated ct inp t s f p mo mp => exact C12_src_atten inp t s f p mo mp ct
  | density rho z s f => exact C13_src_density rho z s f
  | pressure p => exact C13_src_pressure p
  | speed lon lat t s f hh => exact C10_src_speed lon lat t s f hh

/-- C01: one valid flag per element, no exception for valid parameters. -/
theorem C01_prog_total (periodOf : Period → Int → Int) (junk : List Fl) (c : TestCall) (hd : c.inDom = true)
    (h : c.validParams periodOf = true) : C01.holds c (runSrc periodOf junk c).toObs = true := by
  rw [C01_prog_run periodOf junk c hd]; exact C01_total periodOf c h

/-- C02: a missing observation is never reported as evaluated. -/
theorem C02_prog_main (periodOf : Period → Int → Int) (junk : List Fl) (c : TestCall)
    (ha : C02.applies c = true) (hd : c.inDom = true) : C02.holds c (runSrc periodOf junk c).toObs = true := by
  rw [C01_prog_run periodOf junk c hd]; exact C02_main periodOf c ha hd

/-- C16: stricter thresholds never produce a better flag. -/
theorem C16_prog_main (periodOf : Period → Int → Int) (junk junk' : List Fl) (c c' : TestCall)
    (hs : stricter c c' = true) (hd : c.inDom = true) (hd' : c'.inDom = true) (hv : c.validParams periodOf = true) :
    C16.holds (runSrc periodOf junk c).toObs (runSrc periodOf junk' c').toObs = true := by
  rw [C01_prog_run periodOf junk c hd, C01_prog_run periodOf junk' c' hd']; exact C16_main periodOf c c' hs hd hd' hv

/-- C17: offset / time-shift invariance, locality. -/
theorem C17_prog_main (periodOf : Period → Int → Int) (junk junk' : List Fl) (t : Transform) (c c' : TestCall)
    (ht : applyT t c = some c') (hd : c.inDom = true) (hd' : c'.inDom = true) (hv : c.validParams periodOf = true) :
    C17.holds t c (runSrc periodOf junk c).toObs (runSrc periodOf junk' c').toObs = true := by
  rw [C01_prog_run periodOf junk c hd, C01_prog_run periodOf junk' c' hd']; exact C17_main periodOf t c c' ht hd hv

/-- the calendar is a dummy: none of the three tests reads it -/
example : (runSrc (fun _ t => t) [] (.spike "average" (some 3) none [some 1, none, some 100, some 1])).toOption
    = some [.unknown, .missing, .missing, .unknown] := by decide +kernel
example : (runSrc (fun _ t => t) [.nan, .num 100] (.valid (some 0) (some 3) true false [some 1, none, some 5])).toOption
    = some [.good, .missing, .fail] := by decide +kernel
example : (runSrc (fun _ t => t) [] (.density [some 1, some 0, none, some 5] [some 0, some 1, some 2, some 3] (some 0) none)).toOption
    = some [.suspect, .suspect, .missing, .missing] := by decide +kernel

end IoosQc.NpSrc
