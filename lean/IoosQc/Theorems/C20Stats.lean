/-
  C20, statistics side: "for a climatology that is constant in time, create_config returns spans
  equal to the expressions evaluated on the min, max, mean and standard deviation of the grid
  cells inside the requested bounding box".  The model (Model/Creator.lean, which lists what it
  leaves out) pools `d` identical days of the non-NaN cells inside the inclusive box.
  `GridStats.var` is the population variance: what holds of it holds of its square root.
-/
import IoosQc.Model.Creator
import IoosQc.Lemmas.MinMax

namespace IoosQc

theorem c20s_rsum_nil : rsum [] = 0 := rfl

theorem c20s_rsum_perm (xs ys : List Rat) (h : xs.Perm ys) : rsum xs = rsum ys :=
  h.foldl_eq' (fun x _ y _ z => by grind) 0

theorem c20s_pooled_zero (vals : List Rat) : pooled 0 vals = [] := rfl

theorem c20s_pooled_succ (d : Nat) (vals : List Rat) :
    pooled (d + 1) vals = vals ++ pooled d vals := by
  simp [pooled, List.replicate_succ]

theorem c20s_pooled_one (vals : List Rat) : pooled 1 vals = vals ++ [] := c20s_pooled_succ 0 vals

/-- `gridStats` sees a list only through its set of values (min, max) and its averages
    `rsum (map f) / length`: the mean is that of `id`, the variance that of the squared deviation
    from it. -/
theorem gridStats_congr {xs ys : List Rat} (hmem : ∀ x, x ∈ xs ↔ x ∈ ys)
    (havg : ∀ f : Rat → Rat, rsum (xs.map f) / (xs.length : Rat) = rsum (ys.map f) / (ys.length : Rat)) :
    gridStats xs = gridStats ys := by
  have hm := havg id
  rw [List.map_id, List.map_id] at hm
  unfold gridStats sqDev
  dsimp only
  rw [lmin_congr _ _ hmem, lmax_congr _ _ hmem, hm, havg]

theorem C20_stats_perm (xs ys : List Rat) (h : xs.Perm ys) : gridStats xs = gridStats ys :=
  gridStats_congr (fun _ => h.mem_iff) fun f => by rw [c20s_rsum_perm _ _ (h.map f), h.length_eq]

theorem c20s_mem_pooled (d : Nat) (hd : 1 ≤ d) (vals : List Rat) (x : Rat) :
    x ∈ pooled d vals ↔ x ∈ vals := by
  have : d ≠ 0 := by omega
  simp [pooled, this]

theorem c20s_length_pooled (d : Nat) (vals : List Rat) :
    (pooled d vals).length = d * vals.length := by
  simp [pooled]

theorem c20s_rsum_pooled (f : Rat → Rat) (d : Nat) (vals : List Rat) :
    rsum ((pooled d vals).map f) = (d : Rat) * rsum (vals.map f) := by
  induction d with
  | zero => simp [c20s_pooled_zero, c20s_rsum_nil]
  | succ d ih =>
    rw [c20s_pooled_succ, List.map_append, rsum_append, ih, Rat.natCast_add, Rat.natCast_ofNat]; grind

/-- Also for `n = 0`. -/
theorem c20s_mul_div_mul_left {d : Rat} (hd : d ≠ 0) (s n : Rat) : d * s / (d * n) = s / n := by
  by_cases hn : n = 0
  · rw [hn, Rat.mul_zero, Rat.div_def, Rat.div_def, Rat.inv_zero, Rat.mul_zero, Rat.mul_zero]
  · grind

theorem C20_stats_replicate (d : Nat) (hd : 1 ≤ d) (vals : List Rat) :
    gridStats (pooled d vals) = gridStats vals := by
  refine gridStats_congr (c20s_mem_pooled d hd vals) fun f => ?_
  rw [c20s_rsum_pooled, c20s_length_pooled, Rat.natCast_mul]
  exact c20s_mul_div_mul_left (mt Rat.natCast_eq_zero_iff.1 (by omega)) _ _

theorem BBox.contains_iff (b : BBox) (c : GridCell) :
    b.contains c = true ↔ (b.miny ≤ c.lat ∧ c.lat ≤ b.maxy) ∧ b.minx ≤ c.lon ∧ c.lon ≤ b.maxx := by
  simp [BBox.contains, and_assoc]

theorem insideCells_cons (b : BBox) (c : GridCell) (cs : List GridCell) :
    insideCells b (c :: cs) = (if b.contains c then c.value.toList else []) ++ insideCells b cs := by
  rw [insideCells, List.filterMap_cons]
  cases b.contains c <;> cases c.value <;> rfl

/-- A cell exactly on an edge of the bounding box is inside. -/
theorem C20_bbox_inclusive (b : BBox) (c : GridCell) (v : Rat) (hv : c.value = some v)
    (h : (c.lat = b.miny ∨ c.lat = b.maxy ∨ (b.miny ≤ c.lat ∧ c.lat ≤ b.maxy)) ∧
         (c.lon = b.minx ∨ c.lon = b.maxx ∨ (b.minx ≤ c.lon ∧ c.lon ≤ b.maxx)))
    (hbox : b.miny ≤ b.maxy ∧ b.minx ≤ b.maxx) : insideCells b [c] = [v] := by
  have edge : ∀ {a lo hi : Rat}, lo ≤ hi → a = lo ∨ a = hi ∨ (lo ≤ a ∧ a ≤ hi) → lo ≤ a ∧ a ≤ hi := by
    rintro a lo hi hb (rfl | rfl | e)
    · exact ⟨Rat.le_refl, hb⟩
    · exact ⟨hb, Rat.le_refl⟩
    · exact e
  rw [insideCells_cons, (BBox.contains_iff b c).2 ⟨edge hbox.1 h.1, edge hbox.2 h.2⟩, hv]; rfl

theorem C20_nan_dropped (b : BBox) (c : GridCell) (h : c.value = none) (cs : List GridCell) :
    insideCells b (c :: cs) = insideCells b cs := by
  rw [insideCells_cons, h]; cases b.contains c <;> rfl

theorem C20_outside_dropped (b : BBox) (c : GridCell) (cs : List GridCell)
    (h : c.lat < b.miny ∨ b.maxy < c.lat ∨ c.lon < b.minx ∨ b.maxx < c.lon) :
    insideCells b (c :: cs) = insideCells b cs := by
  have hc : ¬ b.contains c = true := by
    rw [BBox.contains_iff]
    intro ⟨⟨h1, h2⟩, h3, h4⟩
    rcases h with h | h | h | h
    · exact Rat.not_le.2 h h1
    · exact Rat.not_le.2 h h2
    · exact Rat.not_le.2 h h3
    · exact Rat.not_le.2 h h4
  rw [insideCells_cons, if_neg hc]; rfl

/-- The property, on the model: the span is the expressions evaluated on the statistics of the
    cells inside the box, whatever the number `d ≥ 1` of days.  `std` is the externally supplied
    square root of `var`. -/
theorem C20_span_days_irrelevant (b : BBox) (cells : List GridCell) (d : Nat) (hd : 1 ≤ d)
    (std : Rat) (lo hi : Expr) :
    creatorSpan b cells d std lo hi =
      (match gridStats (insideCells b cells) with
       | some g => spanOf (g.toStats std) lo hi
       | none => none) := by
  unfold creatorSpan
  rw [C20_stats_replicate d hd]
  rfl

theorem C20_span_perm (b : BBox) (cells cells' : List GridCell) (h : cells.Perm cells') (d : Nat)
    (std : Rat) (lo hi : Expr) :
    creatorSpan b cells d std lo hi = creatorSpan b cells' d std lo hi := by
  cases d with
  | zero => rfl
  | succ d =>
    rw [C20_span_days_irrelevant _ _ _ (by omega), C20_span_days_irrelevant _ _ _ (by omega),
      C20_stats_perm (insideCells b cells) (insideCells b cells') (h.filterMap _)]

def c20sGrid : List GridCell :=
  [ ⟨10, -70, some 1⟩, ⟨10, -60, some 2⟩, ⟨10, -50, some 3⟩,
    ⟨20, -70, some 4⟩, ⟨20, -60, none⟩,   ⟨20, -50, some 6⟩,
    ⟨30, -70, some 7⟩, ⟨30, -60, some 8⟩, ⟨30, -50, some 12⟩ ]

/-- All four edges lie on cell coordinates: lat ∈ [20, 30], lon ∈ [−60, −50]. -/
def c20sBox : BBox := ⟨-60, 20, -50, 30⟩

example : insideCells c20sBox c20sGrid = [6, 8, 12] := by decide +kernel

example : insideCells ⟨-70, 10, -50, 30⟩ c20sGrid = [1, 2, 3, 4, 6, 7, 8, 12] := by decide +kernel

example : insideCells ⟨-59, 11, -51, 19⟩ c20sGrid = [] ∧
    gridStats (insideCells ⟨-59, 11, -51, 19⟩ c20sGrid) = none := by decide +kernel

example : gridStats (insideCells c20sBox c20sGrid) = some ⟨6, 12, 26 / 3, 56 / 9⟩ := by
  decide +kernel

example : (pooled 31 (insideCells c20sBox c20sGrid)).length = 93 ∧
    gridStats (pooled 31 (insideCells c20sBox c20sGrid)) = some ⟨6, 12, 26 / 3, 56 / 9⟩ := by
  decide +kernel

/-- `d ≥ 1` is needed: zero days give no statistics. -/
example : gridStats (pooled 0 (insideCells c20sBox c20sGrid)) = none := by decide +kernel

/-- Repeating one cell changes mean and variance; `C20_stats_replicate` repeats all of them
    equally. -/
example : gridStats [6, 8, 12, 12] = some ⟨6, 12, 19 / 2, 27 / 4⟩ := by decide +kernel

/-- The `0` is `std`, which these two expressions do not read. -/
example : creatorSpan c20sBox c20sGrid 31 0 (.bin .sub (.stat .mean) (.num 2))
    (.bin .add (.stat .max) (.bin .div (.stat .min) (.num 2))) = some (20 / 3, 15) := by
  decide +kernel

end IoosQc
