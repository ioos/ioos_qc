/-
  `fx_parser.evaluate_stack` / `eval_fx`: the source-shaped transcription (`Model/NpFx.lean`: the chain of `if` / `elif` on the
  popped string, `opn[op](op1, op2)` with op2 popped FIRST, `float(op)`) run on a stack of strings computes what the model `evalRev`
  computes on the tokens those strings stand for (`classify`), value, rest and raising alike; `eval_fx`, which evaluates a copy of
  the whole persistent stack, therefore returns the ordinary arithmetic value whatever was pushed before.
-/
import IoosQc.Model.NpFx
import IoosQc.Theorems.C20

namespace IoosQc.NpFx
open IoosQc IoosQc.NpSrc

def pfDemo' (s : String) : Option Rat := if s == "2.5" then some (5 / 2) else none

def opTok : Op2 → Option Tok
  | .add => some (.op .add)
  | .sub => some (.op .sub)
  | .mul => some (.op .mul)
  | .truediv => some (.op .div)
  | .pow => none

/-- `none`: an entry outside the grammar of the property (function calls and function names, `PI`, `E`, `^`, strings that are
    longer pieces of "+-*/^") -/
def classify (pyFloat : String → Option Rat) : SE → Option Tok
  | .call _ _ => none
  | .str op =>
    if op == "unary -" then some .uminus
    else if strIn op "+-*/^" then
      (match lookupOp opn op with
       | .ok o => opTok o
       | .error _ => none)
    else if op == "PI" then none
    else if op == "E" then none
    else if op == "mean" then some (.stat .mean)
    else if op == "min" then some (.stat .min)
    else if op == "max" then some (.stat .max)
    else if op == "std" then some (.stat .std)
    else if fnNames.contains op then none
    else
      match alpha0 op with
      | .error _ => none
      | .ok true => some (.ident op)
      | .ok false =>
        match pyFloat op with
        | some q => some (.num q)
        | none => some (.ident op)          -- `float(op)` raises ValueError: an error like any unknown identifier

def Stands (pyFloat : String → Option Rat) : List SE → List Tok → Prop
  | [], [] => True
  | se :: r, t :: r' => classify pyFloat se = some t ∧ Stands pyFloat r r'
  | _, _ => False

/-- what `evalRev` says about the transcription's outcome -/
def Agrees (pf : String → Option Rat) (res : FxR (Rat × List SE)) (m : Option (Rat × List Tok)) : Prop :=
  match m with
  | none => res = .error .raised
  | some (v, r') => ∃ r, res = .ok (v, r) ∧ Stands pf r r'

def ofOpt (o : Option Rat) : FxR Rat :=
  match o with
  | some v => .ok v
  | none => .error .raised

/-- the function of the `operator` module that `opn` binds to the symbol of `o` -/
def pyOp : BinOp → Op2
  | .add => .add
  | .sub => .sub
  | .mul => .mul
  | .div => .truediv

/-- One step of `evaluate_stack`, read off the token the popped entry stands for: the source's chain of `if`s and that of
    `classify` test the same conditions in the same order. -/
theorem evaluate_stack_classify {pf : String → Option Rat} {stats : StatName → Rat}
    {self : List SE → FxR (Rat × List SE)} {se : SE} {t : Tok} (r : List SE)
    (h : classify pf se = some t) :
    evaluate_stack pf stats self (se :: r) =
      match (generalizing := false) t with
      | .num q => .ok (q, r)
      | .stat n => .ok (stats n, r)
      | .ident _ => .error .raised
      | .uminus => do let (v, s) ← self r; return (-v, s)
      | .op o => do
        let (y, s) ← self r
        let (x, s) ← self s
        let v ← (pyOp o).app x y
        return (v, s) := by
  cases se with
  | call n k => cases h
  | str op =>
    unfold evaluate_stack
    dsimp only [classify] at h
    dsimp only [pop, untuple, bind, Except.bind]
    revert h
    cases op == "unary -"
    case true => intro h; cases h; rfl
    cases strIn op "+-*/^"
    case true =>
      cases lookupOp opn op with
      | error e => intro h; cases h
      | ok f => cases f <;> intro h <;> cases h <;> rfl
    cases op == "PI"
    case true => intro h; cases h
    cases op == "E"
    case true => intro h; cases h
    cases op == "mean"
    case true => intro h; cases h; rfl
    cases op == "min"
    case true => intro h; cases h; rfl
    cases op == "max"
    case true => intro h; cases h; rfl
    cases op == "std"
    case true => intro h; cases h; rfl
    cases fnNames.contains op
    case true => intro h; cases h
    cases alpha0 op with
    | error e => intro h; cases h
    | ok b =>
      cases b
      case true => intro h; cases h; rfl
      cases pf op <;> intro h <;> cases h <;> rfl

theorem pyOp_app (o : BinOp) (x y : Rat) : (pyOp o).app x y = ofOpt (o.apply x y) := by
  cases o
  case div => dsimp only [pyOp, Op2.app, BinOp.apply]; split <;> rfl
  all_goals rfl

theorem Agrees.ok {pf : String → Option Rat} {v : Rat} {r : List SE} {r' : List Tok} (h : Stands pf r r') :
    Agrees pf (.ok (v, r)) (some (v, r')) := ⟨r, rfl, h⟩

theorem Agrees.bind {pf : String → Option Rat} {res : FxR (Rat × List SE)} {m : Option (Rat × List Tok)}
    {f : Rat × List SE → FxR (Rat × List SE)} {g : Rat × List Tok → Option (Rat × List Tok)}
    (h : Agrees pf res m) (hfg : ∀ v r r', Stands pf r r' → Agrees pf (f (v, r)) (g (v, r'))) :
    Agrees pf (res >>= f) (m.bind g) := by
  cases m with
  | none => cases h; rfl
  | some p => obtain ⟨r, rfl, hs⟩ := h; exact hfg _ _ _ hs

theorem Agrees.fst {pf : String → Option Rat} {res : FxR (Rat × List SE)} {m : Option (Rat × List Tok)}
    (h : Agrees pf res m) : (do let (v, _) ← res; return v) = ofOpt (m.map (·.1)) := by
  cases m with
  | none => cases h; rfl
  | some p => obtain ⟨r, rfl, _⟩ := h; rfl

theorem C20_src_eval (pf : String → Option Rat) (st : Stats) :
    ∀ (fuel : Nat) (stack : List SE) (toks : List Tok), Stands pf stack toks →
      Agrees pf (tie (evaluate_stack pf st.get) fuel stack) (evalRev st fuel toks) := by
  intro fuel
  induction fuel with
  | zero => intro stack toks _; rfl
  | succ fuel ih =>
    intro stack toks hs
    match stack, toks, hs with
    | [], [], _ => rfl
    | se :: r, t :: r', ⟨hc, hr⟩ =>
      rw [tie, evaluate_stack_classify r hc]
      cases t with
      | num q => exact .ok hr
      | stat n => exact .ok hr
      | ident n => rfl
      | uminus =>
        rw [evalRev_uminus]
        apply (ih r r' hr).bind
        intro v s s' h
        exact .ok h
      | op o =>
        rw [evalRev_op]
        apply (ih r r' hr).bind
        intro y s s' h
        apply (ih s s' h).bind
        intro x s s' h
        dsimp only
        rw [pyOp_app]
        cases o.apply x y with
        | none => rfl
        | some v => exact .ok h

/-- `Stands` is `List.map` of `classify`, so what `map` commutes with (`++`, `reverse`, `length`) keeps it -/
theorem stands_iff {pf : String → Option Rat} {xs : List SE} {ts : List Tok} :
    Stands pf xs ts ↔ xs.map (classify pf) = ts.map some := by
  induction xs generalizing ts <;> cases ts <;> simp [Stands, *]

theorem Stands.append {pf : String → Option Rat} : ∀ {xs : List SE} {ts : List Tok} {ys : List SE} {us : List Tok},
    Stands pf xs ts → Stands pf ys us → Stands pf (xs ++ ys) (ts ++ us) := by
  intro xs ts ys us h h'
  rw [stands_iff] at h h' ⊢
  rw [List.map_append, List.map_append, h, h']

theorem Stands.reverse {pf : String → Option Rat} : ∀ {xs : List SE} {ts : List Tok},
    Stands pf xs ts → Stands pf xs.reverse ts.reverse := by
  intro xs ts h
  rw [stands_iff] at h ⊢
  rw [List.map_reverse, h, List.map_reverse]

/-- `pre`: whatever earlier parses left on the persistent stack -/
theorem C20_src_evalFx (pf : String → Option Rat) (st : Stats) (exprStack : List SE) (pre : List Tok) (e : Expr)
    (h : Stands pf exprStack (pre ++ e.compile)) :
    eval_fx pf st.get exprStack = ofOpt (evalFx st pre e) := by
  rw [stands_iff] at h
  have hl := congrArg List.length h
  rw [List.length_map, List.length_map] at hl
  rw [eval_fx, evalFx, hl]
  exact (C20_src_eval pf st _ _ _ (stands_iff.2 h).reverse).fst

/-- C20 for the transcription: the ordinary arithmetic value, an exception exactly when the expression divides by zero. -/
theorem C20_src_history (pf : String → Option Rat) (st : Stats) (exprStack : List SE) (pre : List Tok) (e : Expr)
    (h : Stands pf exprStack (pre ++ e.compile)) :
    eval_fx pf st.get exprStack = ofOpt (e.eval st) := by
  rw [C20_src_evalFx pf st exprStack pre e h, C20_eval_history]

/-- the strings the parse actions push for the operator, unary-minus and statistic tokens -/
def symbolOf : Tok → Option String
  | .uminus => some "unary -"
  | .op .add => some "+"
  | .op .sub => some "-"
  | .op .mul => some "*"
  | .op .div => some "/"
  | .stat .min => some "min"
  | .stat .max => some "max"
  | .stat .mean => some "mean"
  | .stat .std => some "std"
  | _ => none

theorem C20_src_symbols (pf : String → Option Rat) (t : Tok) (s : String) (h : symbolOf t = some s) :
    classify pf (.str s) = some t := by
  cases t with
  | op o => cases o <;> cases h <;> rfl
  | stat n => cases n <;> cases h <;> rfl
  | uminus => cases h; rfl
  | num q => cases h
  | ident n => cases h

theorem C20_src_numeral (pf : String → Option Rat) (s : String) (q : Rat)
    (h0 : (s == "unary -") = false) (h1 : strIn s "+-*/^" = false)
    (h2 : (s == "PI") = false ∧ (s == "E") = false ∧ (s == "mean") = false ∧ (s == "min") = false ∧ (s == "max") = false ∧ (s == "std") = false)
    (h3 : fnNames.contains s = false) (h4 : alpha0 s = .ok false) (h5 : pf s = some q) :
    classify pf (.str s) = some (.num q) := by
  obtain ⟨a, b, c, d, e, f⟩ := h2
  have h3' : ¬ s ∈ fnNames := by simpa using h3
  simp [classify, h0, h1, a, b, c, d, e, f, h3', h4, h5]

example : classify pfDemo' (.str "2.5") = some (.num (5 / 2)) := by decide +kernel

-- junk from a failed parse below `mean + 3 * std`
def pfDemo (s : String) : Option Rat := if s == "3" then some 3 else none

example : Stands pfDemo [.str "oops", .str "+", .str "mean", .str "3", .str "std", .str "*", .str "+"]
    ([.ident "oops", .op .add] ++ (Expr.bin .add (.stat .mean) (.bin .mul (.num 3) (.stat .std))).compile) := by
  repeat' constructor
  all_goals decide +kernel

example : eval_fx pfDemo (Stats.get ⟨0, 9, 5, 2⟩) [.str "oops", .str "+", .str "mean", .str "3", .str "std", .str "*", .str "+"]
    = .ok 11 := by
  have : (eval_fx pfDemo (Stats.get ⟨0, 9, 5, 2⟩) [.str "oops", .str "+", .str "mean", .str "3", .str "std", .str "*", .str "+"]).toOption
      = some 11 := by decide +kernel
  revert this
  cases eval_fx pfDemo (Stats.get ⟨0, 9, 5, 2⟩) [.str "oops", .str "+", .str "mean", .str "3", .str "std", .str "*", .str "+"] <;> simp [Except.toOption]

end IoosQc.NpFx
