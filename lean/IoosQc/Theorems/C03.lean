/-
  C03 — `gross_range_test` and `axds.valid_range_test` flag by inclusive interval membership, fail
  before suspect: for every series, every span pair (either order, degenerate, touching), every
  inclusivity setting.
-/
import IoosQc.Lemmas.Ladder
import IoosQc.Lemmas.NormalForm
import IoosQc.Lemmas.MinMax

namespace IoosQc

theorem grossAt_spec (fa fb : Rat) (s : Option (Rat × Rat)) (x : V) :
    grossAt (sort2 fa fb) (s.map fun p => sort2 p.1 p.2) x ∈ grossSpecAt fa fb s x := by
  rw [grossAt_ladder]
  cases x with
  | none => simp [grossSpecAt]
  | some v =>
    have := ladder_mem false false (outside (some v) (sort2 fa fb))
      ((s.map fun p => sort2 p.1 p.2).any (outside (some v)))
    cases s <;> simpa [grossSpecAt, sort2_eq] using this

/-- C03 for `gross_range_test`; `grossSpec` rejects malformed spans and suspect ⊄ fail (the code's
    ValueError). -/
theorem C03_gross (fail : SeqArg) (suspect : Option SeqArg) (inp : List V) :
    conforms (grossSpec fail suspect inp) (grossRange fail suspect inp).toObs = true := by
  -- any calendar will do (`TestCall.run_eq`)
  have hrun := TestCall.run_eq (fun _ t => t) (.gross fail suspect inp)
  simp only [TestCall.run, TestCall.flagAt, TestCall.size] at hrun
  rw [hrun]
  refine fail.conforms_span _ _ _ fun fa fb => ?_
  cases suspect with
  | none =>
    rw [map_eq_range_getV]
    exact conforms_flags_range _ _ _ (fun i _ => by simpa using grossAt_spec fa fb none _)
  | some s =>
    refine s.conforms_span _ _ _ fun sa sb => ?_
    simp only [sort2_eq]
    by_cases hc : lo2 sa sb < lo2 fa fb ∨ hi2 fa fb < hi2 sa sb
    · simp [hc, conforms, Res.toObs]
    · simp only [hc, if_false]
      rw [map_eq_range_getV]
      simpa [hc, sort2_eq] using conforms_flags_range _ _ _
        (fun i _ => grossAt_spec fa fb (some (sa, sb)) (getV inp i))

theorem validAt_spec (lo hi : V) (si ei : Bool) (x : V) :
    validAt lo hi si ei x ∈ validSpecAt lo hi si ei x := by
  rw [validAt_ladder]
  cases x with
  | none => simp [validSpecAt]
  | some v =>
    -- the FAIL condition of the ladder is, by computation, the `below || above` of the property
    exact ladder_mem false false _ false

/-- C03 for `axds.valid_range_test` (`validSpecAt`, Props/Spec.lean). -/
theorem C03_valid (lo hi : V) (si ei : Bool) (inp : List V) :
    conforms (.flags (inp.map (validSpecAt lo hi si ei))) (validRange lo hi si ei inp).toObs = true := by
  unfold validRange
  exact conforms_flags_map inp _ _ (fun x _ => validAt_spec lo hi si ei x)

theorem C03_gross_endpoints_not_fail (fa fb : Rat) (s : Option (Rat × Rat)) :
    grossAt (sort2 fa fb) s (some fa) ≠ .fail ∧ grossAt (sort2 fa fb) s (some fb) ≠ .fail := by
  simp only [grossAt_ladder, ne_eq, ladder_eq_fail, outside_some, sort2_eq, lo2, hi2]
  grind

theorem C03_gross_order (fa fb : Rat) (s : Option (Rat × Rat)) (x : V) :
    grossAt (sort2 fa fb) s x = grossAt (sort2 fb fa) s x := by
  rw [show sort2 fa fb = sort2 fb fa from ite_le_swap fb fa _ _ fun h => by rw [h]]

example : (grossRange ⟨true, [4, 0]⟩ (some ⟨true, [1, 3]⟩)
    [some (-1), some 0, some (1/2), some 2, none, some 5]).toObs = .flags [4, 3, 3, 1, 9, 4] := by
  decide +kernel

end IoosQc
