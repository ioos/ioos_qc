/-
  C20 — the stack machine computes ordinary arithmetic, whatever is already on the stack.
-/
import IoosQc.Props.C20

namespace IoosQc

/-- The arithmetic of one operator; `none`: division by zero.  `Expr.eval`, `evalRev` and the transcription's
    `Op2.app` each spell it out. -/
def BinOp.apply : BinOp → Rat → Rat → Option Rat
  | .add, x, y => some (x + y)
  | .sub, x, y => some (x - y)
  | .mul, x, y => some (x * y)
  | .div, x, y => if y = 0 then none else some (x / y)

theorem evalRev_uminus (st : Stats) (fuel : Nat) (rest : List Tok) :
    evalRev st (fuel + 1) (.uminus :: rest) = (evalRev st fuel rest).bind fun p => some (-p.1, p.2) := by
  rw [evalRev]
  cases evalRev st fuel rest <;> rfl

/-- the right operand is popped first -/
theorem evalRev_op (st : Stats) (fuel : Nat) (o : BinOp) (rest : List Tok) :
    evalRev st (fuel + 1) (.op o :: rest) = (evalRev st fuel rest).bind fun p =>
      (evalRev st fuel p.2).bind fun q => (o.apply q.1 p.1).map (·, q.2) := by
  rw [evalRev]
  cases evalRev st fuel rest with
  | none => rfl
  | some p =>
    dsimp only [Option.bind_some]
    cases evalRev st fuel p.2 with
    | none => rfl
    | some q =>
      cases o
      case div => dsimp only [Option.bind_some, BinOp.apply]; split <;> rfl
      all_goals rfl

theorem evalRev_compile (st : Stats) (e : Expr) :
    ∀ (fuel : Nat) (rest : List Tok), e.compile.length ≤ fuel →
      evalRev st fuel (e.compile.reverse ++ rest) = (e.eval st).map (fun v => (v, rest)) := by
  intro fuel rest h
  -- with the fuel written as a sum the induction needs no case analysis on it
  obtain ⟨k, rfl⟩ := Nat.exists_eq_add_of_le' h
  clear h
  induction e generalizing k rest with
  | num q => rfl
  | stat s => rfl
  | neg e ih =>
    simp only [Expr.compile, List.length_append, List.length_singleton, ← Nat.add_assoc,
      List.reverse_append, List.reverse_cons, List.reverse_nil, List.nil_append, List.cons_append]
    rw [evalRev_uminus, ih, Expr.eval]
    cases e.eval st <;> rfl
  | bin op a b iha ihb =>
    simp only [Expr.compile, List.length_append, List.length_singleton, ← Nat.add_assoc,
      List.reverse_append, List.reverse_cons, List.reverse_nil, List.nil_append, List.cons_append, List.append_assoc]
    rw [evalRev_op, ihb, Expr.eval]
    cases b.eval st with
    | none => cases a.eval st <;> rfl
    | some y =>
      rw [Option.map_some, Option.bind_some, Nat.add_right_comm, iha]
      cases a.eval st <;> cases op <;> rfl

/-- C20: whatever earlier successful, failed or rejected evaluations left on the persistent stack (`pre`), `eval_fx` returns the
    ordinary arithmetic value of the expression, and fails exactly when it divides by zero. -/
theorem C20_eval_history (st : Stats) (pre : List Tok) (e : Expr) :
    evalFx st pre e = e.eval st := by
  unfold evalFx
  simp only [List.reverse_append]
  rw [evalRev_compile st e _ pre.reverse (by simp; omega)]
  cases e.eval st <;> simp

theorem C20_main (st : Stats) (pre : List Tok) (e : Expr) :
    C20.holdsEval st e (evalFxObs st pre e) = true := by
  unfold C20.holdsEval evalFxObs
  rw [C20_eval_history]
  cases e.eval st <;> simp

theorem C20_history_irrelevant (st : Stats) (pre pre' : List Tok) (e : Expr) :
    evalFx st pre e = evalFx st pre' e := by
  rw [C20_eval_history, C20_eval_history]

/-- the evaluator's side of associativity and precedence, with junk on the stack -/
example : evalFx ⟨0, 0, 0, 0⟩ [.op .add, .ident "oops", .num 7]
    (.bin .div (.bin .div (.num 8) (.num 2)) (.num 2)) = some 2 := by decide +kernel
example : evalFx ⟨0, 0, 0, 0⟩ [] (.bin .add (.num 1) (.bin .mul (.num 2) (.num 3))) = some 7 := by
  decide +kernel
example : evalFx ⟨1, 9, 4, 2⟩ [.uminus] (.bin .sub (.stat .mean) (.neg (.bin .mul (.num 3) (.stat .std)))) = some 10 := by
  decide +kernel
example : evalFx ⟨0, 0, 0, 0⟩ [] (.bin .div (.num 1) (.bin .sub (.num 2) (.num 2))) = none := by decide +kernel

/-- the validator, Python `float()` literal oddities included -/
example : validFx "mean + 3 * std" = true := by decide +kernel
example : validFx "( max - min ) / 2.5e-1" = true := by decide +kernel
example : validFx "min+1" = false := by decide +kernel
example : validFx "mean  + 1" = false := by decide +kernel      -- double space: empty token
example : validFx "1_0 + .5 + nan + -inf" = true := by decide +kernel
example : validFx "1__0" = false := by decide +kernel
example : validFx "__import__('os')" = false := by decide +kernel

end IoosQc
