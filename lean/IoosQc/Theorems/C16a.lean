/-
  C16 for gross range, valid range, location, climatology, spike: per test a `NoBetter` statement
  (Lemmas/Mono), the two ladders compared by `c16a_ok_ladder` under a monotonicity fact.  Beyond
  the order on the parameters, location needs `inDom` of both calls
  (`c16a_location_needs_inDom_hops`, `c16a_location_needs_inDom_range`), climatology sorted spans
  in the old members (`c16a_climatology_needs_sorted`).
-/
import IoosQc.Lemmas.Mono
import IoosQc.Theorems.C08

namespace IoosQc

theorem c16a_span_of_seqPair {a : SeqArg} {p : Rat × Rat} (hs : a.isSeq = true)
    (h : seqPair a = some p) : a.span = .ok (sort2 p.1 p.2) := by
  unfold seqPair at h
  split at h
  · next hv => cases h; exact SeqArg.span_of_vals hs hv
  · cases h

theorem gross_flagAt_none (periodOf : Period → Int → Int) {f : SeqArg} {F : Rat × Rat}
    (hF : f.span = .ok F) (inp : List V) :
    (TestCall.gross f none inp).flagAt periodOf = .ok fun i => grossAt F none (getV inp i) := by
  simp only [TestCall.flagAt, hF, ok_bind, pure_eq_ok]

theorem gross_flagAt_some (periodOf : Period → Int → Int) {f u : SeqArg} {F U : Rat × Rat}
    (hF : f.span = .ok F) (hU : u.span = .ok U) (hn : F.1 ≤ U.1 ∧ U.2 ≤ F.2) (inp : List V) :
    (TestCall.gross f (some u) inp).flagAt periodOf
      = .ok fun i => grossAt F (some U) (getV inp i) := by
  simp only [TestCall.flagAt, hF, hU, ok_bind]
  exact if_neg (by simpa [Rat.not_lt] using hn)

theorem stricter_gross (periodOf : Period → Int → Int) {f f' : SeqArg} {s s' : Option SeqArg}
    {inp inp' : List V} (h : stricter (.gross f s inp) (.gross f' s' inp') = true) :
    inp = inp' ∧ ∃ F F' U U',
      (TestCall.gross f s inp).flagAt periodOf = .ok (fun i => grossAt F U (getV inp i)) ∧
      (TestCall.gross f' s' inp').flagAt periodOf = .ok (fun i => grossAt F' U' (getV inp' i)) ∧
      (∀ x, outside x F = true → outside x F' = true) ∧
      ∀ x, U.any (outside x) = true → U'.any (outside x) = true := by
  simp only [stricter, Bool.and_eq_true, decide_eq_true_eq] at h
  obtain ⟨⟨⟨⟨⟨hinp, hf⟩, hf'⟩, hsq⟩, hsq'⟩, hm⟩ := h
  refine ⟨hinp, ?_⟩
  split at hm
  next p p' hp hp' =>
    have hF := c16a_span_of_seqPair hf hp
    have hF' := c16a_span_of_seqPair hf' hp'
    rw [Bool.and_eq_true] at hm
    obtain ⟨hn, hm⟩ := hm
    have hFF := fun x => outside_mono x (nested_sort2 hn).1 (nested_sort2 hn).2
    split at hm
    · exact ⟨_, _, none, none, gross_flagAt_none _ hF _, gross_flagAt_none _ hF' _, hFF,
        fun _ h => nomatch h⟩
    · split at hm
      next q' hq' =>
        exact ⟨_, _, none, some _, gross_flagAt_none _ hF _,
          gross_flagAt_some _ hF' (c16a_span_of_seqPair hsq' hq') (nested_sort2 hm) _, hFF,
          fun _ h => nomatch h⟩
      next => cases hm
    · cases hm
    · split at hm
      next q q' hq hq' =>
        simp only [Bool.and_eq_true] at hm
        exact ⟨_, _, some _, some _,
          gross_flagAt_some _ hF (c16a_span_of_seqPair hsq hq) (nested_sort2 hm.1.2) _,
          gross_flagAt_some _ hF' (c16a_span_of_seqPair hsq' hq') (nested_sort2 hm.2) _,
          hFF, fun x => outside_mono x (nested_sort2 hm.1.1).1 (nested_sort2 hm.1.1).2⟩
      next => cases hm
  next => cases hm

theorem C16_gross_noBetter (periodOf : Period → Int → Int) {f f' : SeqArg} {s s' : Option SeqArg}
    {inp inp' : List V} (hs : stricter (.gross f s inp) (.gross f' s' inp') = true) :
    NoBetter periodOf (.gross f s inp) (.gross f' s' inp') := by
  obtain ⟨rfl, F, F', U, U', hg, hg', hF, hU⟩ := stricter_gross periodOf hs
  refine ⟨rfl, ?_⟩
  rw [hg, hg']
  refine .pure fun i _ => ?_
  rw [grossAt_ladder, grossAt_ladder]
  exact c16a_ok_ladder _ _ (hF _) fun h => .inl (hU _ h)

/-- `stricter` on gross_range_test: well-formed spans with suspect ⊆ fail in both calls (so neither
    raises), new fail ⊆ old fail, new suspect ⊆ old suspect or added. -/
theorem C16_gross (f : SeqArg) (s : Option SeqArg) (inp : List V)
    (f' : SeqArg) (s' : Option SeqArg) (inp' : List V)
    (hs : stricter (.gross f s inp) (.gross f' s' inp') = true) :
    C16.holds (grossRange f s inp).toObs (grossRange f' s' inp').toObs = true := by
  -- the test takes no calendar: `grossRange f s inp` is `(TestCall.gross f s inp).run p` by
  -- definition for any `p`; a dummy is passed
  obtain ⟨-, _, _, _, _, hg, -⟩ := stricter_gross (fun _ t => t) hs
  exact (C16_gross_noBetter _ hs).holds hg

theorem C16_valid (periodOf : Period → Int → Int) {lo hi lo' hi' : V} {si ei si' ei' : Bool} (inp : List V)
    (hl : lowerStricter lo' si' lo si = true) (hu : upperStricter hi' ei' hi ei = true) :
    NoBetter periodOf (.valid lo hi si ei inp) (.valid lo' hi' si' ei' inp) := by
  refine ⟨rfl, .pure fun i _ => ?_⟩
  rw [validAt_ladder, validAt_ladder]
  refine c16a_ok_ladder _ _ (fun h => ?_) (fun h => nomatch h)
  rw [Bool.or_eq_true] at h ⊢
  exact h.imp (lowerStricter_imp _ hl) (upperStricter_imp _ hu)

theorem hopOver_anti {r r' : Option Rat} (n : Nat) (d : V) (h : optLe r' r = true)
    (ho : hopOver r n d = true) : hopOver r' n d = true := by
  have e : ∀ r : Option Rat, hopOver r n d = r.any fun q => decide (1 < n) && vgt d q :=
    fun r => by cases r <;> rfl
  rw [e] at ho ⊢
  refine optLe_imp _ (fun a b hab h' => ?_) h ho
  rw [Bool.and_eq_true] at h' ⊢
  exact ⟨h'.1, vgt_anti d hab h'.2⟩

theorem C16_location (periodOf : Period → Int → Int) (lon lat h : List V) {b b' : SeqArg} {B B' : Box}
    {r r' : Option Rat} (hB : b.box = .ok B) (hB' : b'.box = .ok B')
    (hx0 : B.minx ≤ B'.minx) (hy0 : B.miny ≤ B'.miny) (hx1 : B'.maxx ≤ B.maxx) (hy1 : B'.maxy ≤ B.maxy)
    (hr : optLe r' r = true)
    (hd : (TestCall.location lon lat b r h).inDom = true)
    (hd' : (TestCall.location lon lat b' r' h).inDom = true) :
    NoBetter periodOf (.location lon lat b r h) (.location lon lat b' r' h) := by
  have hcons := hcons_of_consistent (location_inDom_hops hd)
  refine ⟨rfl, ?_⟩
  simp only [TestCall.flagAt, hB, hB', ok_bind]
  refine .guard _ _ (.pure fun i (hi : i < lon.length) => ?_)
  -- where a coordinate is missing the hop rule does not fire, in either call
  rw [locationAt_ladder _ _ _ _ _ _
      (hopOver_lacking r _ lon lat h i hi (location_inDom_range hd) hcons),
    locationAt_ladder _ _ _ _ _ _
      (hopOver_lacking r' _ lon lat h i hi (location_inDom_range hd') hcons)]
  refine c16a_ok_ladder _ _ (fun ho => ?_) fun ho => .inl (hopOver_anti _ _ hr ho)
  rw [Bool.or_eq_true] at ho ⊢
  exact ho.imp_right (outsideBox_mono _ _ hx0 hy0 hx1 hy1)

/-- Sorted value and fail spans, as `ClimatologyConfig.add` leaves them: the conjuncts of
    `memberSorted` (a part of `inDom`) that C16 uses. -/
def c16a_membersSorted (ms : List Member) : Prop :=
  ∀ m ∈ ms, m.vspan.1 ≤ m.vspan.2 ∧ ∀ f, m.fspan = some f → f.1 ≤ f.2

theorem c16a_covers_eq (periodOf : Period → Int → Int) (n o : Member) (t : Int) (z : V)
    (h : memberStricter n o = true) : memberCovers periodOf n t z = memberCovers periodOf o t z := by
  simp only [memberStricter, Bool.and_eq_true, decide_eq_true_eq] at h
  obtain ⟨⟨⟨⟨h1, h2⟩, h3⟩, _⟩, _⟩ := h
  unfold memberCovers memberTime
  rw [h1, h2, h3]

theorem c16a_classify (n o : Member) (v : Rat) (h : memberStricter n o = true)
    (hv : o.vspan.1 ≤ o.vspan.2) (hf : ∀ f, o.fspan = some f → f.1 ≤ f.2) :
    c16a_ok (classify o v) (classify n v) = true := by
  simp only [memberStricter, Bool.and_eq_true] at h
  rw [classify_ladder, classify_ladder]
  refine c16a_ok_ladder _ _ (fun hF => ?_) fun hS =>
    .inl (decide_eq_true (nested_outside h.1.2 hv (of_decide_eq_true hS)))
  cases ho : o.fspan with
  | none => rw [ho] at hF; cases hF
  | some fo =>
    rw [ho] at hF
    cases hn : n.fspan with
    | none => rw [ho, hn] at h; cases h.2
    | some fn =>
      rw [ho, hn] at h
      exact decide_eq_true (nested_outside h.2 (hf fo ho) (of_decide_eq_true hF))

theorem c16a_fold (periodOf : Period → Int → Int) (t : Int) (z : V) (v : Rat) (noDepth : Bool)
    (hz : noDepth = true → z = none)
    (ms ms' : List Member) (h : membersStricter ms' ms = true) (hsorted : c16a_membersSorted ms)
    (acc acc' : Flag) (ha : c16a_ok acc acc' = true) :
    c16a_ok
      (ms.foldl (fun acc m => memberApply m acc (memberTime periodOf m t) (some v) z noDepth) acc)
      (ms'.foldl (fun acc m => memberApply m acc (memberTime periodOf m t) (some v) z noDepth) acc')
        = true := by
  induction ms generalizing ms' acc acc' with
  | nil =>
    cases ms' with
    | nil => exact ha
    | cons _ _ => cases h
  | cons o os ih =>
    cases ms' with
    | nil => cases h
    | cons n ns =>
      simp only [membersStricter, Bool.and_eq_true] at h
      rw [List.foldl_cons, List.foldl_cons, memberApply_present _ _ _ _ _ _ _ hz,
        memberApply_present _ _ _ _ _ _ _ hz, c16a_covers_eq periodOf n o t z h.1]
      refine ih ns h.2 (fun m hm => hsorted m (.tail _ hm)) _ _ ?_
      split
      · exact c16a_classify n o v h.1 (hsorted o (.head _)).1 (hsorted o (.head _)).2
      · exact ha

theorem c16a_climAt (periodOf : Period → Int → Int) (ms ms' : List Member) (noDepth : Bool)
    (t : Int) (x z : V) (hz : noDepth = true → z = none)
    (h : membersStricter ms' ms = true) (hsorted : c16a_membersSorted ms) :
    c16a_ok (climAt periodOf ms noDepth t x z) (climAt periodOf ms' noDepth t x z) = true := by
  cases x with
  | none => rw [climAt_missing, climAt_missing]; rfl
  | some v => exact c16a_fold periodOf t z v noDepth hz ms ms' h hsorted _ _ rfl

theorem C16_climatology (periodOf : Period → Int → Int) {ms ms' : List Member} (inp : List V)
    (t : List Int) (z : List V) (hm : membersStricter ms' ms = true) (hsorted : c16a_membersSorted ms) :
    NoBetter periodOf (.climatology ms inp t z) (.climatology ms' inp t z) :=
  ⟨rfl, .pure fun i _ =>
    c16a_climAt periodOf ms ms' _ _ _ _ (fun hall => getV_of_all_none z i hall) hm hsorted⟩

theorem C16_spike (periodOf : Period → Int → Int) (m : String) {s f s' f' : Option Rat} (inp : List V)
    (hs : optLe s' s = true) (hf : optLe f' f = true) :
    NoBetter periodOf (.spike m s f inp) (.spike m s' f' inp) := by
  refine ⟨rfl, .bind _ fun k => .pure fun i _ => ?_⟩
  rw [spikeAt_ladder, spikeAt_ladder]
  exact c16a_ok_ladder _ _ (optLe_imp _ (fun _ _ => vgt_anti _) hf)
    fun h => .inl (optLe_imp _ (fun _ _ => vgt_anti _) hs h)

/-- An unsorted old value span `(10, 0)`: `nested` reads it as [0, 10] and accepts `(0, 10)` as
    stricter; the model compares `x < 10 ∨ x > 0` and flags every value SUSPECT. -/
theorem c16a_climatology_needs_sorted :
    stricter (.climatology [⟨(0, 100), (10, 0), none, none, none⟩] [some 4] [5] [none])
             (.climatology [⟨(0, 100), (0, 10), none, none, none⟩] [some 4] [5] [none]) = true ∧
    (climatologyTest IoosQc.periodOf [⟨(0, 100), (10, 0), none, none, none⟩] [some 4] [5] [none]).toObs
      = .flags [3] ∧
    (climatologyTest IoosQc.periodOf [⟨(0, 100), (0, 10), none, none, none⟩] [some 4] [5] [none]).toObs
      = .flags [1] ∧
    C16.holds
      (climatologyTest IoosQc.periodOf [⟨(0, 100), (10, 0), none, none, none⟩] [some 4] [5] [none]).toObs
      (climatologyTest IoosQc.periodOf [⟨(0, 100), (0, 10), none, none, none⟩] [some 4] [5] [none]).toObs
      = false := by
  decide +kernel

/-- The hop list gives a distance into an entirely missing position: adding `range_max` turns that
    MISSING point into SUSPECT. -/
theorem c16a_location_needs_inDom_hops :
    stricter (.location [some 0, none] [some 0, none] ⟨true, [-10, -10, 10, 10]⟩ none [some 5])
             (.location [some 0, none] [some 0, none] ⟨true, [-10, -10, 10, 10]⟩ (some 1) [some 5]) = true ∧
    (TestCall.location [some 0, none] [some 0, none] ⟨true, [-10, -10, 10, 10]⟩ (some 1) [some 5]).inDom = false ∧
    (locationTest [some 0, none] [some 0, none] ⟨true, [-10, -10, 10, 10]⟩ none [some 5]).toObs = .flags [1, 9] ∧
    (locationTest [some 0, none] [some 0, none] ⟨true, [-10, -10, 10, 10]⟩ (some 1) [some 5]).toObs = .flags [1, 3] ∧
    C16.holds
      (locationTest [some 0, none] [some 0, none] ⟨true, [-10, -10, 10, 10]⟩ none [some 5]).toObs
      (locationTest [some 0, none] [some 0, none] ⟨true, [-10, -10, 10, 10]⟩ (some 1) [some 5]).toObs = false := by
  decide +kernel

/-- Only the new call is outside the domain (negative `range_max` added): the first point, whose
    hop is 0, goes from MISSING to SUSPECT. -/
theorem c16a_location_needs_inDom_range :
    stricter (.location [none, some 0] [none, some 0] ⟨true, [-10, -10, 10, 10]⟩ none [none])
             (.location [none, some 0] [none, some 0] ⟨true, [-10, -10, 10, 10]⟩ (some (-1)) [none]) = true ∧
    (TestCall.location [none, some 0] [none, some 0] ⟨true, [-10, -10, 10, 10]⟩ none [none]).inDom = true ∧
    (TestCall.location [none, some 0] [none, some 0] ⟨true, [-10, -10, 10, 10]⟩ (some (-1)) [none]).inDom = false ∧
    (locationTest [none, some 0] [none, some 0] ⟨true, [-10, -10, 10, 10]⟩ none [none]).toObs = .flags [9, 1] ∧
    (locationTest [none, some 0] [none, some 0] ⟨true, [-10, -10, 10, 10]⟩ (some (-1)) [none]).toObs = .flags [3, 1] ∧
    C16.holds
      (locationTest [none, some 0] [none, some 0] ⟨true, [-10, -10, 10, 10]⟩ none [none]).toObs
      (locationTest [none, some 0] [none, some 0] ⟨true, [-10, -10, 10, 10]⟩ (some (-1)) [none]).toObs = false := by
  decide +kernel

/-- Unequal lengths: both calls raise, and `C16.holds` is false on errors; `NoBetter` asks nothing
    there, `C16_main` has `validParams`. -/
theorem c16a_location_needs_len :
    stricter (.location [some 0] [] ⟨true, [-10, -10, 10, 10]⟩ none [])
             (.location [some 0] [] ⟨true, [-10, -10, 10, 10]⟩ none []) = true ∧
    (TestCall.location [some 0] [] ⟨true, [-10, -10, 10, 10]⟩ none []).inDom = true ∧
    (locationTest [some 0] [] ⟨true, [-10, -10, 10, 10]⟩ none []).toObs = .error .value ∧
    C16.holds (locationTest [some 0] [] ⟨true, [-10, -10, 10, 10]⟩ none []).toObs
      (locationTest [some 0] [] ⟨true, [-10, -10, 10, 10]⟩ none []).toObs = false := by
  decide +kernel

/-- An unknown method: both calls raise (`validParams` is false). -/
theorem c16a_spike_needs_method :
    stricter (.spike "median" none none [some 0]) (.spike "median" none none [some 0]) = true ∧
    C16.holds (spikeTest "median" none none [some 0]).toObs
      (spikeTest "median" none none [some 0]).toObs = false := by
  decide +kernel

/-- The strict spans are given in reverse order. -/
example :
    stricter (.gross ⟨true, [0, 10]⟩ none [some (-1), some 1, some 5, none, some 9, some 11])
      (.gross ⟨true, [8, 0]⟩ (some ⟨true, [6, 2]⟩) [some (-1), some 1, some 5, none, some 9, some 11]) = true ∧
    (grossRange ⟨true, [0, 10]⟩ none [some (-1), some 1, some 5, none, some 9, some 11]).toObs
      = .flags [4, 1, 1, 9, 1, 4] ∧
    (grossRange ⟨true, [8, 0]⟩ (some ⟨true, [6, 2]⟩) [some (-1), some 1, some 5, none, some 9, some 11]).toObs
      = .flags [4, 3, 1, 9, 4, 4] := by
  decide +kernel

example : C16.holds
    (grossRange ⟨true, [0, 10]⟩ none [some (-1), some 1, some 5, none, some 9, some 11]).toObs
    (grossRange ⟨true, [8, 0]⟩ (some ⟨true, [6, 2]⟩) [some (-1), some 1, some 5, none, some 9, some 11]).toObs
      = true := by
  apply C16_gross
  decide +kernel

example :
    stricter (.valid (some 0) none true true [some 0, some 5, none, some (-1)])
      (.valid (some 0) (some 5) false false [some 0, some 5, none, some (-1)]) = true ∧
    (validRange (some 0) none true true [some 0, some 5, none, some (-1)]).toObs = .flags [1, 1, 9, 4] ∧
    (validRange (some 0) (some 5) false false [some 0, some 5, none, some (-1)]).toObs
      = .flags [4, 4, 9, 4] := by
  decide +kernel

example : C16.holds (validRange (some 0) none true true [some 0, some 5, none, some (-1)]).toObs
    (validRange (some 0) (some 5) false false [some 0, some 5, none, some (-1)]).toObs = true := by
  exact (C16_valid (fun _ t => t) _ (by decide +kernel) (by decide +kernel)).holds rfl

example :
    stricter
      (.location [some 0, some 5, some 9, none, none] [some 0, some 5, some 0, some 3, none]
        ⟨true, [-10, -10, 10, 10]⟩ none [some 7, some 6, none, none])
      (.location [some 0, some 5, some 9, none, none] [some 0, some 5, some 0, some 3, none]
        ⟨true, [-8, -8, 8, 8]⟩ (some 6) [some 7, some 6, none, none]) = true ∧
    (TestCall.location [some 0, some 5, some 9, none, none] [some 0, some 5, some 0, some 3, none]
        ⟨true, [-10, -10, 10, 10]⟩ none [some 7, some 6, none, none]).inDom = true ∧
    (TestCall.location [some 0, some 5, some 9, none, none] [some 0, some 5, some 0, some 3, none]
        ⟨true, [-8, -8, 8, 8]⟩ (some 6) [some 7, some 6, none, none]).inDom = true ∧
    (locationTest [some 0, some 5, some 9, none, none] [some 0, some 5, some 0, some 3, none]
        ⟨true, [-10, -10, 10, 10]⟩ none [some 7, some 6, none, none]).toObs = .flags [1, 1, 1, 4, 9] ∧
    (locationTest [some 0, some 5, some 9, none, none] [some 0, some 5, some 0, some 3, none]
        ⟨true, [-8, -8, 8, 8]⟩ (some 6) [some 7, some 6, none, none]).toObs = .flags [1, 3, 4, 4, 9] := by
  decide +kernel

example : C16.holds
    (locationTest [some 0, some 5, some 9, none, none] [some 0, some 5, some 0, some 3, none]
        ⟨true, [-10, -10, 10, 10]⟩ none [some 7, some 6, none, none]).toObs
    (locationTest [some 0, some 5, some 9, none, none] [some 0, some 5, some 0, some 3, none]
        ⟨true, [-8, -8, 8, 8]⟩ (some 6) [some 7, some 6, none, none]).toObs = true := by
  refine (C16_location (fun _ t => t) _ _ _ rfl rfl ?_ ?_ ?_ ?_ ?_ ?_ ?_).holds rfl <;> decide +kernel

example :
    stricter
      (.climatology [⟨(0, 100), (0, 10), none, none, none⟩]
        [some 4, some 9, some 12, none, some 4] [5, 6, 7, 8, 200] [none, none, none, none, none])
      (.climatology [⟨(0, 100), (2, 8), some (0, 10), none, none⟩]
        [some 4, some 9, some 12, none, some 4] [5, 6, 7, 8, 200] [none, none, none, none, none]) = true ∧
    (climatologyTest IoosQc.periodOf [⟨(0, 100), (0, 10), none, none, none⟩]
        [some 4, some 9, some 12, none, some 4] [5, 6, 7, 8, 200] [none, none, none, none, none]).toObs
      = .flags [1, 1, 3, 9, 2] ∧
    (climatologyTest IoosQc.periodOf [⟨(0, 100), (2, 8), some (0, 10), none, none⟩]
        [some 4, some 9, some 12, none, some 4] [5, 6, 7, 8, 200] [none, none, none, none, none]).toObs
      = .flags [1, 3, 4, 9, 2] := by
  decide +kernel

example : C16.holds
    (climatologyTest IoosQc.periodOf [⟨(0, 100), (0, 10), none, none, none⟩]
        [some 4, some 9, some 12, none, some 4] [5, 6, 7, 8, 200] [none, none, none, none, none]).toObs
    (climatologyTest IoosQc.periodOf [⟨(0, 100), (2, 8), some (0, 10), none, none⟩]
        [some 4, some 9, some 12, none, some 4] [5, 6, 7, 8, 200] [none, none, none, none, none]).toObs
      = true := by
  refine (C16_climatology _ _ _ _ (by decide +kernel) ?_).holds rfl
  intro m hm
  simp only [List.mem_singleton] at hm
  subst hm
  exact ⟨by decide +kernel, fun f hf => by simp at hf⟩

example :
    stricter (.spike "average" none (some 5) [some 0, some 0, some 3, some 0, some 10, some 0, none, some 0])
      (.spike "average" (some 2) (some 4) [some 0, some 0, some 3, some 0, some 10, some 0, none, some 0]) = true ∧
    (spikeTest "average" none (some 5) [some 0, some 0, some 3, some 0, some 10, some 0, none, some 0]).toObs
      = .flags [2, 1, 1, 4, 4, 9, 9, 2] ∧
    (spikeTest "average" (some 2) (some 4) [some 0, some 0, some 3, some 0, some 10, some 0, none, some 0]).toObs
      = .flags [2, 1, 3, 4, 4, 9, 9, 2] := by
  decide +kernel

example : C16.holds
    (spikeTest "average" none (some 5) [some 0, some 0, some 3, some 0, some 10, some 0, none, some 0]).toObs
    (spikeTest "average" (some 2) (some 4) [some 0, some 0, some 3, some 0, some 10, some 0, none, some 0]).toObs
      = true := by
  -- `show`: the calls are recognised in `spikeTest …` only once the method is given
  show C16.holds ((TestCall.spike "average" ..).run fun _ t => t).toObs
    ((TestCall.spike "average" ..).run fun _ t => t).toObs = true
  exact (C16_spike _ _ _ (by decide +kernel) (by decide +kernel)).holds rfl

end IoosQc
