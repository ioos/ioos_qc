/-
  C16 — stricter thresholds never produce a better flag: `stricter` read test by test and the
  `NoBetter` theorems of C16a / C16b lifted to the two runs of an accepted call.
-/
import IoosQc.Theorems.C16a
import IoosQc.Theorems.C16b
import IoosQc.Theorems.C01

namespace IoosQc

theorem membersSorted_of_inDom (ms : List Member) (inp : List V) (t : List Int) (z : List V)
    (h : (TestCall.climatology ms inp t z).inDom = true) : c16a_membersSorted ms := by
  simp only [TestCall.inDom, Bool.and_eq_true, List.all_eq_true] at h
  intro m hm
  have := h.2 m hm
  simp only [memberSorted, Bool.and_eq_true, decide_eq_true_eq] at this
  refine ⟨this.1.1.2, fun f hf => ?_⟩
  simpa [hf] using this.1.2

/-- The statement behind `C16_main`, and stronger: UNKNOWN and MISSING stay as they are, the
    stricter call is accepted whenever the looser one is, and `validParams` is not needed. -/
theorem C16_noBetter (periodOf : Period → Int → Int) (c c' : TestCall)
    (hs : stricter c c' = true) (hd : c.inDom = true) (hd' : c'.inDom = true) :
    NoBetter periodOf c c' := by
  -- `stricter` relates a test to itself only, on the same data: one case per test
  unfold stricter at hs
  split at hs
  · exact C16_gross_noBetter periodOf hs
  -- two different tests: `stricter` is `false`, which closes the last case
  all_goals simp only [Bool.and_eq_true, decide_eq_true_eq, Bool.false_eq_true] at hs
  · obtain ⟨⟨rfl, hl⟩, hu⟩ := hs
    exact C16_valid _ _ hl hu
  · obtain ⟨⟨⟨⟨⟨⟨rfl, rfl⟩, rfl⟩, hseq⟩, hseq'⟩, hbox⟩, hr⟩ := hs
    split at hbox
    next hv hv' =>
      simp only [Bool.and_eq_true, decide_eq_true_eq] at hbox
      exact C16_location _ _ _ _ (SeqArg.box_of_vals hseq hv) (SeqArg.box_of_vals hseq' hv')
        hbox.1.1.1 hbox.1.1.2 hbox.1.2 hbox.2 hr hd hd'
    next => cases hbox
  · obtain ⟨⟨⟨rfl, rfl⟩, rfl⟩, hm⟩ := hs
    exact C16_climatology _ _ _ _ hm (membersSorted_of_inDom _ _ _ _ hd)
  · obtain ⟨⟨⟨rfl, rfl⟩, hs1⟩, hs2⟩ := hs
    exact C16_spike _ _ _ hs1 hs2
  · obtain ⟨⟨rfl, rfl⟩, h3⟩ := hs
    exact C16_roc _ _ _ h3
  · obtain ⟨⟨⟨⟨rfl, rfl⟩, h1⟩, h2⟩, h3⟩ := hs
    simp only [TestCall.inDom, Bool.and_eq_true, decide_eq_true_eq] at hd'
    exact C16_flat _ _ _ h1 h2 h3 hd'.1.2 hd'.2
  · obtain ⟨⟨⟨⟨⟨⟨⟨rfl, rfl⟩, rfl⟩, rfl⟩, rfl⟩, rfl⟩, h1⟩, h2⟩ := hs
    exact C16_atten _ _ _ _ _ _ _ h1 h2
  · obtain ⟨⟨⟨rfl, rfl⟩, h1⟩, h2⟩ := hs
    exact C16_density _ _ _ h1 h2
  · obtain ⟨⟨⟨⟨⟨rfl, rfl⟩, rfl⟩, rfl⟩, h1⟩, h2⟩ := hs
    exact C16_speed _ _ _ _ _ h1 h2 (speed_inDom_hops hd)

/-- C16: for every threshold-driven test and every ordered pair (loose, strict) of parameter sets in
    the domain, no flag becomes less severe in GOOD < SUSPECT < FAIL and the UNKNOWN / MISSING
    points are unchanged. -/
theorem C16_main (periodOf : Period → Int → Int) (c c' : TestCall)
    (hs : stricter c c' = true) (hd : c.inDom = true) (hd' : c'.inDom = true)
    (hv : c.validParams periodOf = true) :
    C16.holds (c.run periodOf).toObs (c'.run periodOf).toObs = true := by
  obtain ⟨fs, hfs⟩ := C01_run_ok periodOf c hv
  obtain ⟨g, hg, -⟩ := (TestCall.run_ok_iff periodOf c fs).1 hfs
  exact (C16_noBetter periodOf c c' hs hd hd').holds hg

end IoosQc
