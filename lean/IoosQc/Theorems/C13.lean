/-
  C13 — `density_inversion_test` and `argo.pressure_increasing_test` flag both points of an
  inverted pair, in either cast direction: the models conform to `densSpec` / `pressSpecAt` for
  every profile (n = 0, 1 included), every missing placement, every threshold pair (one or both
  absent), and a profile and its reverse (upcast vs downcast) receive mirrored flags when nothing
  is missing (`C13_reverse`; the `example` headed "Why …" is the counterexample).
-/
import IoosQc.Lemmas.Ladder
import IoosQc.Lemmas.NormalForm

namespace IoosQc

theorem rsign_mul (z0 z1 r0 r1 : Rat) :
    rsign (z1 - z0) * (r1 - r0) = if z0 < z1 then r1 - r0 else if z1 < z0 then r0 - r1 else 0 := by
  unfold rsign
  grind

/-- The code's `sign(Δz)·Δρ < thr` is the property's "change in the direction of increasing depth". -/
theorem vlt_densDelta (rho z : List V) (thr : Rat) (j : Nat) :
    vlt (densDelta rho z j) thr = pairBelow rho z thr j := by
  unfold densDelta pairBelow vlt
  cases getV rho j <;> cases getV rho (j + 1) <;> cases getV z j <;> cases getV z (j + 1) <;>
    simp [rsign_mul]

theorem densPairBelow_eq (rho z : List V) (thr : Option Rat) (i : Nat) :
    thr.any (densPairBelow rho z · i) = inPairBelow rho z thr i := by
  cases thr
  · rfl
  · simp [densPairBelow, inPairBelow, vlt_densDelta]

theorem inPairBelow_none (rho z : List V) (i : Nat) : inPairBelow rho z none i = false := rfl

theorem densAt_spec (sus fail : Option Rat) (rho z : List V) (i : Nat) (hn : rho.length ≠ 1) :
    densAt sus fail rho z i ∈ densSpecAt sus fail rho z i := by
  rw [densAt_ladder, densPairBelow_eq, densPairBelow_eq]
  unfold densSpecAt
  rw [if_neg hn]
  simpa using ladder_mem (recMissing rho z i || (decide (0 < i) && recMissing rho z (i - 1))) false
    (inPairBelow rho z fail i) (inPairBelow rho z sus i)

theorem C13_density (rho z : List V) (sus fail : Option Rat) :
    conforms (densSpec rho z sus fail) (densityTest rho z sus fail).toObs = true := by
  -- any calendar will do (`TestCall.run_eq`)
  have hrun := TestCall.run_eq (fun _ t => t) (.density rho z sus fail)
  simp only [TestCall.run, TestCall.flagAt, TestCall.size] at hrun
  rw [hrun]
  unfold densSpec
  split
  · rfl
  · apply conforms_flags_range
    intro i hi
    split
    · have : rho.length = 1 := by omega
      simp [densSpecAt, this]
    · exact densAt_spec sus fail rho z i (by omega)

theorem vsum_telescope (a : Rat) (t : List Rat) :
    vsum ((List.range t.length).map (pressDelta ((a :: t).map some))) = some (t.getLastD a - a) := by
  induction t generalizing a with
  | nil => exact congrArg some (Rat.sub_self).symm
  | cons b t ih =>
    have hf : pressDelta ((a :: b :: t).map some) ∘ Nat.succ = pressDelta ((b :: t).map some) :=
      funext fun _ => rfl
    rw [List.length_cons, List.range_succ_eq_map, List.map_cons, List.map_map, hf]
    simp only [vsum, ih b, List.getLastD_cons]
    show some (b - a + (t.getLastD b - b)) = some (t.getLastD b - a)
    grind

theorem exists_eq_map_some (p : List V) (h : ∀ v ∈ p, v ≠ none) : ∃ l : List Rat, p = l.map some := by
  induction p with
  | nil => exact ⟨[], rfl⟩
  | cons x xs ih =>
    obtain ⟨l, rfl⟩ := ih fun v hv => h v (List.mem_cons_of_mem _ hv)
    cases x with
    | none => exact absurd rfl (h none List.mem_cons_self)
    | some v => exact ⟨v :: l, rfl⟩

/-- With nothing missing, the code's direction flip is "last below first". -/
theorem pressFlip_present (a : Rat) (t : List Rat) :
    pressFlip ((a :: t).map some) = decide (t.getLastD a < a) := by
  unfold pressFlip
  rw [List.length_map, List.length_cons, Nat.add_sub_cancel, vsum_telescope]
  simp
  grind

theorem ladder_mem_gs (s : Bool) : ladder false false false s ∈ [Flag.good, Flag.suspect] := by
  cases s <;> decide

/-- The step rule of the code (`flip` = last below first) against the property sentence, as a fact
    about four numbers: first `a`, last `w`, previous `x`, current `y`. -/
theorem press_sentence (a w x y : Rat) :
    ladder false false false (if w < a then decide (0 ≤ y - x) else decide (y - x ≤ 0)) ∈
      (if a < w then if x < y then [Flag.good] else [Flag.suspect]
       else if w < a then if y < x then [Flag.good] else [Flag.suspect] else [Flag.good, Flag.suspect]) := by
  unfold ladder
  grind

theorem getV_map_some (l : List Rat) (k : Nat) (h : k < l.length) :
    getV (l.map some) k = some l[k] := by
  rw [getV_of_lt _ (by rwa [List.length_map]), List.getElem_map]

theorem pressAt_spec (p : List V) (i : Nat) (hi : i < p.length) :
    pressAt p (pressFlip p) i ∈ pressSpecAt p i := by
  rw [pressAt_ladder]
  unfold pressSpecAt
  by_cases hm : p.any Option.isNone = true
  · rw [if_pos hm]
    exact ladder_mem_gs _
  · rw [if_neg hm]
    obtain ⟨l, rfl⟩ := exists_eq_map_some p fun v hv hn => hm (List.any_eq_true.2 ⟨v, hv, hn ▸ rfl⟩)
    cases i with
    | zero => exact List.mem_singleton.2 rfl  -- the first point is GOOD
    | succ k =>
      cases l with
      | nil => simp at hi
      | cons a t =>
        rw [List.length_map] at hi
        have hl : ((a :: t).map some).getLast?.join = some (t.getLastD a) := by
          simp [List.getLast?_cons]
        rw [pressFlip_present, if_neg (Nat.succ_ne_zero k), hl, Nat.add_sub_cancel, pressDelta,
          getV_map_some _ _ hi, getV_map_some _ k (by omega)]
        generalize (a :: t)[k + 1] = y
        generalize (a :: t)[k] = x
        generalize t.getLastD a = w
        simpa [vsub] using press_sentence a w x y

theorem C13_pressure (p : List V) :
    conforms (.flags ((List.range p.length).map (pressSpecAt p))) (pressureTest p).toObs = true := by
  unfold pressureTest
  exact conforms_flags_range _ _ _ (fun i hi => pressAt_spec p i hi)

/-! ### upcast vs downcast -/

theorem rsign_neg_mul (z0 z1 r0 r1 : Rat) :
    rsign (z0 - z1) * (r0 - r1) = rsign (z1 - z0) * (r1 - r0) := by
  unfold rsign
  grind

/-- The pair `(j, j + 1)` of the reversed profile is the mirror pair `(j', j' + 1)` read backwards. -/
theorem densDelta_reverse (rho z : List V) (hl : rho.length = z.length) {j j' : Nat}
    (h : j + j' + 2 = rho.length) :
    densDelta rho.reverse z.reverse j = densDelta rho z j' := by
  have h0 : j + (j' + 1) + 1 = rho.length := by omega
  have h1 : j + 1 + j' + 1 = rho.length := by omega
  unfold densDelta
  rw [getV_mirror rho h0, getV_mirror rho h1, getV_mirror z (hl ▸ h0), getV_mirror z (hl ▸ h1)]
  cases getV rho j' <;> cases getV rho (j' + 1) <;> cases getV z j' <;> cases getV z (j' + 1) <;>
    try rfl
  exact congrArg some (rsign_neg_mul ..)

theorem densPair_reverse (rho z : List V) (hl : rho.length = z.length) (thr : Rat) {i i' : Nat}
    (h : i + i' + 1 = rho.length) :
    (decide (0 < i) && vlt (densDelta rho.reverse z.reverse (i - 1)) thr) =
      (decide (i' + 1 < rho.length) && vlt (densDelta rho z i') thr) := by
  cases i with
  | zero =>
    have : ¬ i' + 1 < rho.length := by omega
    simp [this]
  | succ k =>
    have : i' + 1 < rho.length := by omega
    simp [this, densDelta_reverse rho z hl (show k + i' + 2 = _ by omega)]

theorem densPairBelow_reverse (rho z : List V) (hl : rho.length = z.length) (thr : Rat) {i i' : Nat}
    (h : i + i' + 1 = rho.length) :
    densPairBelow rho.reverse z.reverse thr i = densPairBelow rho z thr i' := by
  -- the pair starting at `i`: the same fact about the reversed profile, read from right to left
  have h' := densPair_reverse rho.reverse z.reverse
    (by rw [List.length_reverse, List.length_reverse, hl]) thr
    (show i' + i + 1 = rho.reverse.length by rw [List.length_reverse]; omega)
  rw [List.reverse_reverse, List.reverse_reverse, List.length_reverse] at h'
  unfold densPairBelow
  rw [List.length_reverse, Bool.or_comm, densPair_reverse rho z hl thr h, h']

theorem densAt_complete (sus fail : Option Rat) (r d : List Rat) (hl : r.length = d.length)
    (i : Nat) (hi : i < r.length) :
    densAt sus fail (r.map some) (d.map some) i =
      ladder false false (fail.any (densPairBelow (r.map some) (d.map some) · i))
        (sus.any (densPairBelow (r.map some) (d.map some) · i)) := by
  have hm : ∀ k, k < r.length → recMissing (r.map some) (d.map some) k = false := fun k hk => by
    simp [recMissing, getV_map_some, hk, hl ▸ hk]
  rw [densAt_ladder, hm i hi, hm (i - 1) (by omega), Bool.and_false]
  rfl

theorem C13_reverse (rho z : List V) (sus fail : Option Rat)
    (hr : ∀ v ∈ rho, v ≠ none) (hz : ∀ v ∈ z, v ≠ none) (hl : rho.length = z.length) :
    densityTest rho.reverse z.reverse sus fail = (densityTest rho z sus fail).map List.reverse := by
  obtain ⟨r, rfl⟩ := exists_eq_map_some rho hr
  obtain ⟨d, rfl⟩ := exists_eq_map_some z hz
  have h := fun rho z => TestCall.run_eq (fun _ t => t) (.density rho z sus fail)
  simp only [TestCall.run, TestCall.flagAt, TestCall.size] at h
  have hl' : ¬ ((r.map some).length != (d.map some).length) = true := by simpa using hl
  rw [h, h, List.length_reverse, List.length_reverse, if_neg hl', if_neg hl']
  refine congrArg Except.ok (map_range_mirror _ _ _ fun i j hij => ?_)
  split
  · rfl
  · -- the reversed profile is a list of numbers too
    simp only [List.length_map] at hl hij
    rw [← List.map_reverse, ← List.map_reverse,
      densAt_complete sus fail r.reverse d.reverse (by simp [hl]) i (by simp; omega),
      densAt_complete sus fail r d hl j (by omega), List.map_reverse, List.map_reverse]
    simp only [densPairBelow_reverse (r.map some) (d.map some) (by simpa using hl) _
      (show i + j + 1 = _ by simpa using hij)]

theorem C13_density_single (r d : V) (sus fail : Option Rat) :
    densityTest [r] [d] sus fail = .ok [.unknown] := rfl

theorem C13_density_length_mismatch (rho z : List V) (sus fail : Option Rat)
    (hl : rho.length ≠ z.length) : densityTest rho z sus fail = .error .value := by
  rw [densityTest, if_pos (by simpa using hl)]
  rfl

theorem C13_density_pair_fail (rho z : List V) (sus : Option Rat) (f : Rat) (j : Nat)
    (hj : j + 1 < rho.length) (hp : pairBelow rho z f j = true)
    (hm0 : recMissing rho z j = false) (hm1 : recMissing rho z (j + 1) = false)
    (hm : 0 < j → recMissing rho z (j - 1) = false) :
    densAt sus (some f) rho z j = .fail ∧ densAt sus (some f) rho z (j + 1) = .fail := by
  rw [← vlt_densDelta] at hp
  have hm' : (decide (0 < j) && recMissing rho z (j - 1)) = false := by
    cases j with
    | zero => rfl
    | succ k => simpa using hm (Nat.succ_pos k)
  constructor
  · rw [densAt_ladder, ladder_eq_fail]
    simp [hm0, hm', densPairBelow, hj, hp]
  · rw [densAt_ladder, ladder_eq_fail]
    simp [hm0, hm1, densPairBelow, hp]

/-- Why `C13_reverse` asks for nothing missing: a missing value also marks the *next* record,
    which is not a mirror-symmetric rule. -/
example :
    (densityTest [some 1, none, some 3, some 4] [some 1, some 2, some 3, some 4] none none).toObs
      = .flags [1, 9, 9, 1] ∧
    (densityTest [some 4, some 3, none, some 1] [some 4, some 3, some 2, some 1] none none).toObs
      = .flags [1, 1, 9, 9] := by
  decide +kernel

/-- A downcast with a SUSPECT pair (−0.02 < −0.01), a FAIL pair (−0.04 < −0.03) and a missing
    depth, which marks its successor too. -/
example : (densityTest
    [some 1024, some 1025, some (1025 - 1/50), some 1025, some (1025 - 1/25), some 1026, some 1027, some 1028]
    [some 0, some 10, some 20, some 30, some 40, some 50, none, some 70]
    (some (-1/100)) (some (-3/100))).toObs = .flags [1, 3, 3, 4, 4, 1, 9, 9] := by
  decide +kernel

/-- Its complete part as an upcast. -/
example : (densityTest
    [some 1026, some (1025 - 1/25), some 1025, some (1025 - 1/50), some 1025, some 1024]
    [some 50, some 40, some 30, some 20, some 10, some 0]
    (some (-1/100)) (some (-3/100))).toObs = .flags [1, 4, 4, 3, 3, 1] := by
  decide +kernel

/-- A repeat is SUSPECT in either direction. -/
example : (pressureTest [some 0, some 10, some 10, some 5, some 20]).toObs = .flags [1, 1, 3, 3, 1] ∧
    (pressureTest [some 20, some 10, some 12, some 5, some 5]).toObs = .flags [1, 1, 3, 1, 3] := by
  decide +kernel

end IoosQc
