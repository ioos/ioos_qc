/-
  C16 for rate of change, flat line, attenuated signal, density inversion, argo.speed_test, as
  `NoBetter` statements like those of C16a: rate / speed thresholds not larger, flat-line durations
  not longer and tolerance not smaller, attenuation and density thresholds not smaller.  From
  `inDom`, speed needs `hopsConsistent` (the example after `C16_speed`), flat line `0 ≤ s'`,
  `0 ≤ f'` of the strict call (the last example of the file).
-/
import IoosQc.Lemmas.C11Helpers
import IoosQc.Lemmas.Mono

namespace IoosQc

theorem C16_roc (periodOf : Period → Int → Int) (inp : List V) (t : List Int) {thr thr' : Rat}
    (h : thr' ≤ thr) : NoBetter periodOf (.roc inp t thr) (.roc inp t thr') := by
  refine ⟨rfl, .guard _ _ (.pure fun i _ => ?_)⟩
  rw [rocAt_ladder, rocAt_ladder]
  exact c16a_ok_ladder _ _ id fun hv => .inl (vgt_anti _ h hv)

theorem C16_speed (periodOf : Period → Int → Int) (lon lat : List V) (t : List Int) {s f s' f' : Rat}
    (h : List V) (hs : s' ≤ s) (hf : f' ≤ f) (hcons : hopsConsistent lon lat h = true) :
    NoBetter periodOf (.speed lon lat t s f h) (.speed lon lat t s' f' h) := by
  refine ⟨rfl, .guard _ _ (.pure fun i _ => ?_)⟩
  split
  · rfl
  · -- past the first point a position with neither coordinate has no hop into it: MISSING in
    -- both calls whatever the thresholds
    have hmiss := hopAt_none_of_consistent hcons i
    rw [speedAt_ladder _ _ _ _ _ _ _ hmiss, speedAt_ladder _ _ _ _ _ _ _ hmiss]
    exact c16a_ok_ladder _ _ (vgt_anti _ hf) fun hv => .inl (vgt_anti _ hs hv)

/-- `C16_speed` needs `hcons`: a distance supplied for the hop into a position without coordinates
    leaves it MISSING under threshold 10 and makes it SUSPECT under 1. -/
example :
    stricter (.speed [some 0, none] [some 0, none] [0, 1] 10 20 [some 5])
             (.speed [some 0, none] [some 0, none] [0, 1] 1 20 [some 5]) = true ∧
    (speedTest [some 0, none] [some 0, none] [0, 1] 10 20 [some 5]).toObs = .flags [2, 9] ∧
    (speedTest [some 0, none] [some 0, none] [0, 1] 1 20 [some 5]).toObs = .flags [2, 3] ∧
    C16.holds (speedTest [some 0, none] [some 0, none] [0, 1] 10 20 [some 5]).toObs
              (speedTest [some 0, none] [some 0, none] [0, 1] 1 20 [some 5]).toObs = false ∧
    hopsConsistent [some 0, none] [some 0, none] [some 5] = false := by
  decide +kernel

theorem c16b_densPairBelow_mono (rho z : List V) (i : Nat) (a b : Rat) (h : a ≤ b)
    (hv : densPairBelow rho z a i = true) : densPairBelow rho z b i = true := by
  unfold densPairBelow at hv ⊢
  simp only [Bool.or_eq_true, Bool.and_eq_true] at hv ⊢
  exact hv.imp (And.imp_right (vlt_mono _ h)) (And.imp_right (vlt_mono _ h))

theorem C16_density (periodOf : Period → Int → Int) (rho z : List V) {s f s' f' : Option Rat}
    (hs : optGe s' s = true) (hf : optGe f' f = true) :
    NoBetter periodOf (.density rho z s f) (.density rho z s' f') := by
  refine ⟨rfl, .guard _ _ (.pure fun i _ => ?_)⟩
  split
  · rfl
  · rw [densAt_ladder, densAt_ladder]
    exact c16a_ok_ladder _ _ (optGe_imp _ (c16b_densPairBelow_mono rho z i) hf)
      fun hv => .inl (optGe_imp _ (c16b_densPairBelow_mono rho z i) hs hv)

/-- Squaring is monotone on the positives, so `stat < θ` survives raising `θ`. -/
theorem c16b_Stat_lt_mono (st : Stat) (a b : Rat) (h : a ≤ b) (hv : st.lt a = true) :
    st.lt b = true := by
  cases st with
  | undef => simp [Stat.lt] at hv
  | lin v => simp [Stat.lt] at hv ⊢; grind
  | var v =>
    simp only [Stat.lt, Bool.and_eq_true, decide_eq_true_eq] at hv ⊢
    obtain ⟨h0, hlt⟩ := hv
    have hb : 0 < b := by grind
    have e1 : a * a ≤ a * b := Rat.mul_le_mul_of_nonneg_left h (Rat.le_of_lt h0)
    have e2 : a * b ≤ b * b := Rat.mul_le_mul_of_nonneg_right h (Rat.le_of_lt hb)
    exact ⟨hb, by grind⟩

theorem C16_atten (periodOf : Period → Int → Int) (ct : String) (inp : List V) (t : List Int)
    {s f s' f' : Rat} (p : Option Rat) (mo : Option Nat) (mp : Option Rat) (hs : s ≤ s') (hf : f ≤ f') :
    NoBetter periodOf (.attenuated ct inp t s f p mo mp) (.attenuated ct inp t s' f' p mo mp) := by
  -- the statistic at each position (whole series, or the rolling window) is that of both calls
  have key : ∀ (st : Stat) (x : V), c16a_ok (attenAt st s f x) (attenAt st s' f' x) = true := fun st x => by
    rw [attenAt_ladder, attenAt_ladder]
    exact c16a_ok_ladder _ _ (c16b_Stat_lt_mono _ f f' hf) fun hv => .inl (c16b_Stat_lt_mono _ s s' hs hv)
  refine ⟨rfl, .bind _ fun k => ?_⟩
  cases p <;> exact .pure fun i _ => key _ _

/-- `h0`: for `D ≤ 0` the strict count is 0 because `0 ≤ ⌊s'⌋`. -/
theorem c16b_flatCount_mono (s s' : Rat) (D : Int) (h0 : 0 ≤ s') (h : s' ≤ s) :
    flatCount s' D ≤ flatCount s D := by
  unfold flatCount
  have hf : s'.floor ≤ s.floor := Rat.floor_monotone h
  have h0f : 0 ≤ s'.floor := Rat.le_floor_iff.2 (by simpa using h0)
  by_cases hD : 0 < D
  · exact Int.toNat_le_toNat (Int.ediv_le_ediv hD hf)
  · rw [Int.toNat_of_nonpos (Int.ediv_nonpos_of_nonneg_of_nonpos h0f (Int.not_lt.1 hD))]
    exact Nat.zero_le _

theorem c16b_self_mem_window (xs : List V) (i k : Nat) (hki : k ≤ i) (v : Rat)
    (hv : getV xs i = some v) : some v ∈ windowEnding xs i k := by
  refine List.mem_iff_getElem?.2 ⟨k, ?_⟩
  rw [getElem?_windowEnding, if_pos (Nat.lt_succ_self k), Nat.sub_add_cancel hki, getElem?_of_getV hv]

theorem c16b_flatHit_mono (xs : List V) (i k k' : Nat) (tol tol' : Rat) (v : Rat)
    (hv : getV xs i = some v) (hk : k' ≤ k) (ht : tol ≤ tol')
    (h : flatHit xs k tol i = true) : flatHit xs k' tol' i = true := by
  unfold flatHit at h ⊢
  simp only [Bool.and_eq_true, decide_eq_true_eq] at h ⊢
  obtain ⟨hki, h⟩ := h
  refine ⟨by omega, ?_⟩
  cases hsp : spread (present (windowEnding xs i k)) with
  | none => simp [hsp] at h
  | some r =>
    simp only [hsp, decide_eq_true_eq] at h
    have hsub : (present (windowEnding xs i k')).Sublist (present (windowEnding xs i k)) := by
      rw [windowEnding_drop xs i hk hki]
      exact (List.drop_sublist _ _).filterMap id
    obtain ⟨r', hr', hle⟩ := spread_sub _ _ hsub.subset
      (List.ne_nil_of_mem (List.mem_filterMap.2
        ⟨_, c16b_self_mem_window xs i k' (by omega) v hv, rfl⟩)) r hsp
    simp only [hr', decide_eq_true_eq]
    grind

theorem c16b_flatAt (ks kf ks' kf' : Nat) (tol tol' : Rat) (xs : List V) (i : Nat)
    (h1 : ks' ≤ ks) (h2 : kf' ≤ kf) (h3 : tol ≤ tol') :
    c16a_ok (flatAt ks kf tol xs i) (flatAt ks' kf' tol' xs i) = true := by
  rw [flatAt_ladder, flatAt_ladder]
  cases hv : getV xs i with
  | none => rfl
  | some v =>
    exact c16a_ok_ladder _ _ (c16b_flatHit_mono xs i kf kf' tol tol' v hv h2 h3)
      fun h => .inl (c16b_flatHit_mono xs i ks ks' tol tol' v hv h1 h3 h)

/-- The time axis is arbitrary: the same median step divides both durations. -/
theorem C16_flat (periodOf : Period → Int → Int) (inp : List V) (t : List Int) {s f tol s' f' tol' : Rat}
    (hs : s' ≤ s) (hf : f' ≤ f) (htol : tol ≤ tol') (hs0 : 0 ≤ s') (hf0 : 0 ≤ f') :
    NoBetter periodOf (.flatLine inp t s f tol) (.flatLine inp t s' f' tol') := by
  refine ⟨rfl, .pure fun i _ => ?_⟩
  split
  · exact c16a_ok_refl _
  · exact c16b_flatAt _ _ _ _ tol tol' inp i (c16b_flatCount_mono s s' _ hs0 hs)
      (c16b_flatCount_mono f f' _ hf0 hf) htol

example :
    stricter (.roc [some 0, some 8, some 17, none] [0, 64, 128, 192] (1/8))
             (.roc [some 0, some 8, some 17, none] [0, 64, 128, 192] (1/16)) = true ∧
    (rocTest [some 0, some 8, some 17, none] [0, 64, 128, 192] (1/8)).toObs = .flags [1, 1, 3, 9] ∧
    (rocTest [some 0, some 8, some 17, none] [0, 64, 128, 192] (1/16)).toObs = .flags [1, 3, 3, 9] ∧
    C16.holds (rocTest [some 0, some 8, some 17, none] [0, 64, 128, 192] (1/8)).toObs
              (rocTest [some 0, some 8, some 17, none] [0, 64, 128, 192] (1/16)).toObs = true := by
  decide +kernel

example :
    stricter (.speed [some 0, some 1, some 2] [some 0, some 0, some 0] [0, 10, 20] 20 30 [some 100, some 100])
             (.speed [some 0, some 1, some 2] [some 0, some 0, some 0] [0, 10, 20] 5 8 [some 100, some 100]) = true ∧
    (speedTest [some 0, some 1, some 2] [some 0, some 0, some 0] [0, 10, 20] 20 30 [some 100, some 100]).toObs
      = .flags [2, 1, 1] ∧
    (speedTest [some 0, some 1, some 2] [some 0, some 0, some 0] [0, 10, 20] 5 8 [some 100, some 100]).toObs
      = .flags [2, 4, 4] ∧
    C16.holds
      (speedTest [some 0, some 1, some 2] [some 0, some 0, some 0] [0, 10, 20] 20 30 [some 100, some 100]).toObs
      (speedTest [some 0, some 1, some 2] [some 0, some 0, some 0] [0, 10, 20] 5 8 [some 100, some 100]).toObs
      = true := by
  decide +kernel

example :
    stricter (.density [some 1, some 3, some 2, none, some 5] [some 0, some 1, some 2, some 3, some 4] (some (-2)) none)
             (.density [some 1, some 3, some 2, none, some 5] [some 0, some 1, some 2, some 3, some 4] (some 0) (some (-1/2))) = true ∧
    (densityTest [some 1, some 3, some 2, none, some 5] [some 0, some 1, some 2, some 3, some 4] (some (-2)) none).toObs
      = .flags [1, 1, 1, 9, 9] ∧
    (densityTest [some 1, some 3, some 2, none, some 5] [some 0, some 1, some 2, some 3, some 4] (some 0) (some (-1/2))).toObs
      = .flags [1, 4, 4, 9, 9] ∧
    C16.holds
      (densityTest [some 1, some 3, some 2, none, some 5] [some 0, some 1, some 2, some 3, some 4] (some (-2)) none).toObs
      (densityTest [some 1, some 3, some 2, none, some 5] [some 0, some 1, some 2, some 3, some 4] (some 0) (some (-1/2))).toObs
      = true := by
  decide +kernel

example :
    stricter (.attenuated "range" [some 0, some 3, none, some 1] [0, 1, 2, 3] 2 1 none none none)
             (.attenuated "range" [some 0, some 3, none, some 1] [0, 1, 2, 3] 4 1 none none none) = true ∧
    (attenuatedTest "range" [some 0, some 3, none, some 1] [0, 1, 2, 3] 2 1 none none none).toObs
      = .flags [1, 1, 9, 1] ∧
    (attenuatedTest "range" [some 0, some 3, none, some 1] [0, 1, 2, 3] 4 1 none none none).toObs
      = .flags [3, 3, 9, 3] ∧
    C16.holds (attenuatedTest "range" [some 0, some 3, none, some 1] [0, 1, 2, 3] 2 1 none none none).toObs
      (attenuatedTest "range" [some 0, some 3, none, some 1] [0, 1, 2, 3] 4 1 none none none).toObs
      = true := by
  decide +kernel

/-- The variance statistic: the population variance 1 is below 2², not below 1². -/
example :
    (attenuatedTest "std" [some 0, some 2] [0, 1] 1 (1/2) none none none).toObs = .flags [1, 1] ∧
    (attenuatedTest "std" [some 0, some 2] [0, 1] 2 (1/2) none none none).toObs = .flags [3, 3] ∧
    (attenuatedTest "std" [some 0, some 2] [0, 1] 2 (3/2) none none none).toObs = .flags [4, 4] := by
  decide +kernel

example :
    stricter (.flatLine [some 1, some 1, some 2, some 2, none, some 2, some 5] [0, 60, 120, 180, 240, 300, 360] 120 180 (1/2))
             (.flatLine [some 1, some 1, some 2, some 2, none, some 2, some 5] [0, 60, 120, 180, 240, 300, 360] 60 120 (3/2)) = true ∧
    (flatLineTest [some 1, some 1, some 2, some 2, none, some 2, some 5] [0, 60, 120, 180, 240, 300, 360] 120 180 (1/2)).toObs
      = .flags [1, 1, 1, 1, 9, 4, 1] ∧
    (flatLineTest [some 1, some 1, some 2, some 2, none, some 2, some 5] [0, 60, 120, 180, 240, 300, 360] 60 120 (3/2)).toObs
      = .flags [1, 3, 4, 4, 9, 4, 1] := by
  -- the median step is rewritten first: `Array.qsort` does not evaluate in the kernel
  have hm : medianStep [0, 60, 120, 180, 240, 300, 360] = 60 :=
    medianStep_regular _ 60 (List.replicate 5 60) (by decide +kernel) (by decide +kernel)
  unfold flatLineTest
  simp only [hm]
  decide +kernel

/-- `C16_flat` needs `hs0`: on this decreasing time axis the median step is −1, duration −2 gives a
    count of 2 where duration 0 gives 0, so the stricter call has the longer window. -/
example :
    stricter (.flatLine [some 0, some 1, some 2, some 3] [3, 2, 1, 0] 0 (-10) (1/2))
             (.flatLine [some 0, some 1, some 2, some 3] [3, 2, 1, 0] (-2) (-10) (1/2)) = true ∧
    (flatLineTest [some 0, some 1, some 2, some 3] [3, 2, 1, 0] 0 (-10) (1/2)).toObs
      = .flags [3, 3, 3, 3] ∧
    (flatLineTest [some 0, some 1, some 2, some 3] [3, 2, 1, 0] (-2) (-10) (1/2)).toObs
      = .flags [1, 1, 1, 1] := by
  have hm : medianStep [3, 2, 1, 0] = -1 :=
    medianStep_regular _ (-1) (List.replicate 2 (-1)) (by decide +kernel) (by decide +kernel)
  unfold flatLineTest
  simp only [hm]
  decide +kernel

end IoosQc
