/-
  C07 — every equivalent spelling of a configuration yields the same set of calls.  A configuration is a typed normal
  form `cs : List NCtx`; `layoutJ l cs` is the tree a user writes for it in layout `l`; `configCalls` is the dispatch of
  `Config.__init__` on that tree.  `C07_main_eq`: for every layout in `C07.inDom` the calls exposed are, in order,
  `specCalls`: one per configured (stream, module, test) naming an existing function.  The bare mappings are told apart
  by `dict_depth` alone, so the `streams` layout needs `hasParams` (`C07_F09_depth`, `C07_F09_witness`; F-09).  Also
  assumed: the region is observed as written (`regionSeen = region`); a known test lies in a known module (`hk`).
-/
import IoosQc.Props.C07
import IoosQc.Lemmas.ListDrop
namespace IoosQc

/-! ### `dict_depth` -/

theorem J.depthVals_le_iff (kvs : List (String × J)) (n : Nat) :
    J.depthVals kvs ≤ n ↔ ∀ p ∈ kvs, p.2.depth ≤ n := by
  induction kvs with
  | nil => simp [J.depthVals]
  | cons p rest ih =>
    obtain ⟨k, v⟩ := p
    simp only [J.depthVals, List.mem_cons, forall_eq_or_imp, Nat.max_le, ih]

theorem J.depth_obj_map_le_iff {α : Type} (f : α → String × J) (l : List α) (n : Nat) :
    (J.obj (l.map f)).depth ≤ n + 1 ↔ ∀ a ∈ l, (f a).2.depth ≤ n := by
  rw [J.depth, Nat.add_comm, Nat.add_le_add_iff_right, J.depthVals_le_iff, List.forall_mem_map]

theorem modulesJ_depth_le_iff (ms : List NModule) (n : Nat) :
    (modulesJ ms).depth ≤ n + 2 ↔ ∀ m ∈ ms, ∀ t ∈ m.tests, t.kwargs.depth ≤ n := by
  simp only [modulesJ, NModule.toJ, J.depth_obj_map_le_iff]

theorem streamsJ_depth_le_iff (ss : List NStream) (n : Nat) :
    (streamsJ ss).depth ≤ n + 3 ↔ ∀ s ∈ ss, ∀ m ∈ s.modules, ∀ t ∈ m.tests, t.kwargs.depth ≤ n := by
  simp only [streamsJ, NStream.toJ, NModule.toJ, J.depth_obj_map_le_iff]

theorem isParamMapping_depth (j : J) (h : isParamMapping j = true) : j.depth ≤ 1 := by
  cases j with
  | obj kvs =>
    simp only [isParamMapping, List.all_eq_true, beq_iff_eq] at h
    rw [J.depth]
    exact Nat.add_le_add_left ((J.depthVals_le_iff kvs 0).2 fun p hp => Nat.le_of_eq (h p hp)) 1
  | _ => exact Nat.zero_le _

theorem C07_depth_modules (ms : List NModule)
    (hw : ms.all (fun m => m.tests.all fun t => isParamMapping t.kwargs) = true) :
    (modulesJ ms).depth ≤ 3 := by
  simp only [List.all_eq_true] at hw
  exact (modulesJ_depth_le_iff ms 1).2 fun m hm t ht => isParamMapping_depth _ (hw m hm t ht)

theorem C07_depth_streams_le (ss : List NStream)
    (hw : ss.all (fun s => s.modules.all fun m => m.tests.all fun t => isParamMapping t.kwargs) = true) :
    (streamsJ ss).depth ≤ 4 := by
  simp only [List.all_eq_true] at hw
  exact (streamsJ_depth_le_iff ss 1).2 fun s hs m hm t ht => isParamMapping_depth _ (hw s hs m hm t ht)

theorem C07_depth_streams_iff (ss : List NStream) : (streamsJ ss).depth ≤ 3 ↔ hasParams ss = false := by
  have h0 : ∀ j : J, j.depth ≤ 0 ↔ (match j with | .obj _ => true | _ => false) = false := fun j => by
    cases j <;> simp [J.depth]
  simp only [streamsJ_depth_le_iff ss 0, hasParams, List.any_eq_false, Bool.not_eq_true, h0]
  exact Iff.rfl

theorem C07_depth_streams (ss : List NStream) (hp : hasParams ss = true) : 4 ≤ (streamsJ ss).depth :=
  Nat.lt_of_not_le fun h => Bool.false_ne_true (((C07_depth_streams_iff ss).1 h).symm.trans hp)

/-! ### `ContextConfig`: one context mapping -/

/-- what `ContextConfig` and the layout dispatch read of a written context -/
theorem NCtx.toJ_reads (c : NCtx) (hr : c.regionSeen = c.region) :
    c.toJ.get? "streams" = some (streamsJ c.streams) ∧ (c.toJ.get? "window").getD .null = c.window ∧
    regionOf c.toJ = c.regionObserved ∧ c.toJ.get? "contexts" = none := by
  unfold NCtx.toJ regionOf NCtx.regionObserved
  split <;> split <;> simp [J.get?, *]

/-- no test of a module that does not import is known -/
theorem filterMap_unknown {α β : Type} {knownMod : String → Bool} {known : String → String → Bool}
    (hk : ∀ m t, known m t = true → knownMod m = true) {m : String} (hm : knownMod m = false)
    (name : α → String) (f : α → β) (l : List α) :
    (l.filterMap fun a => if known m (name a) = true then some (f a) else none) = [] :=
  List.filterMap_eq_nil_iff.2 fun _ _ => if_neg fun h => Bool.false_ne_true (hm ▸ hk m _ h)

theorem C07_context (knownMod : String → Bool) (known : String → String → Bool)
    (hk : ∀ m t, known m t = true → knownMod m = true) (c : NCtx) (hr : c.regionSeen = c.region) :
    contextCalls knownMod known c.toJ = c.spec known := by
  obtain ⟨hs, hw, hg, -⟩ := c.toJ_reads hr
  unfold contextCalls NCtx.spec
  rw [hs, hw, hg]
  show (c.streams.map NStream.toJ).flatMap _ = _
  rw [List.flatMap_map]
  refine flatMap_congr' fun s _ => ?_
  show (s.modules.map NModule.toJ).flatMap _ = _
  rw [List.flatMap_map]
  refine flatMap_congr' fun m _ => ?_
  show (if !knownMod m.name then [] else (m.tests.map _).filterMap _) = _
  rw [List.filterMap_map]
  cases hm : knownMod m.name with
  | true => rfl
  | false => exact (filterMap_unknown hk hm _ _ _).symm

/-! ### `Config.__init__`: the layout dispatch -/

/-- a mapping built by `map` from unreserved keys is dispatched on its depth alone -/
theorem configCalls_map {α : Type} (knownMod : String → Bool) (known : String → String → Bool)
    (f : α → String × J) (l : List α) (h : l.all (fun a => !reserved (f a).1) = true) (dk : String) :
    configCalls knownMod known dk (.obj (l.map f)) =
      if 4 ≤ (J.obj (l.map f)).depth then contextCalls knownMod known (.obj [("streams", .obj (l.map f))])
      else contextCalls knownMod known (.obj [("streams", .obj [(dk, .obj (l.map f))])]) := by
  have key : ∀ k, reserved k = true → (J.obj (l.map f)).has k = false := by
    intro k hk
    have : (l.map f).find? (·.1 = k) = none := by
      rw [List.find?_eq_none, List.forall_mem_map]
      intro a ha e
      have := List.all_eq_true.1 h a ha
      rw [of_decide_eq_true e, hk] at this
      cases this
    simp [J.has, J.get?, this]
  unfold configCalls
  rw [key "contexts" (by simp [reserved]), key "streams" (by simp [reserved])]
  rfl

theorem C07_layout_contexts (knownMod : String → Bool) (known : String → String → Bool)
    (hk : ∀ m t, known m t = true → knownMod m = true) (cs : List NCtx)
    (hr : ∀ c ∈ cs, c.regionSeen = c.region) (dk : String) :
    configCalls knownMod known dk (contextsJ cs) = specCalls known cs := by
  have h1 : (contextsJ cs).get? "contexts" = some (.arr (cs.map NCtx.toJ)) := by
    simp [contextsJ, J.get?]
  simp only [configCalls, J.has, h1, Option.isSome_some, if_true, specCalls, List.flatMap_map]
  exact flatMap_congr' fun c hc => C07_context knownMod known hk c (hr c hc)

theorem C07_layout_context (knownMod : String → Bool) (known : String → String → Bool)
    (hk : ∀ m t, known m t = true → knownMod m = true) (c : NCtx)
    (hr : c.regionSeen = c.region) (dk : String) :
    configCalls knownMod known dk c.toJ = c.spec known := by
  obtain ⟨hs, -, -, hc⟩ := c.toJ_reads hr
  simp only [configCalls, J.has, hc, hs, Option.isSome_none, Option.isSome_some, if_true, if_false, Bool.false_eq_true]
  exact C07_context knownMod known hk c hr

/-- of `NStream.wf` only "no reserved stream id" is used; `hasParams` makes the mapping four levels deep -/
theorem C07_layout_streams (knownMod : String → Bool) (known : String → String → Bool)
    (hk : ∀ m t, known m t = true → knownMod m = true) (ss : List NStream)
    (hw : ss.all NStream.wf = true) (hp : hasParams ss = true) (dk : String) :
    configCalls knownMod known dk (streamsJ ss) = (⟨.null, .null, .null, ss⟩ : NCtx).spec known := by
  have hres : ss.all (fun s => !reserved s.id) = true :=
    List.all_eq_true.2 fun s hs => (Bool.and_eq_true_iff.1 (List.all_eq_true.1 hw s hs)).1
  refine ((configCalls_map knownMod known NStream.toJ ss hres dk).trans (if_pos (C07_depth_streams ss hp))).trans ?_
  exact C07_context knownMod known hk ⟨.null, .null, .null, ss⟩ rfl

/-- `C07_layout_modules` from what it uses; the default stream id is unconstrained -/
theorem C07_layout_modules' (knownMod : String → Bool) (known : String → String → Bool)
    (hk : ∀ m t, known m t = true → knownMod m = true) (ms : List NModule)
    (hw : ms.all (fun m => !reserved m.name) = true) (hd : (modulesJ ms).depth ≤ 3) (dk : String) :
    configCalls knownMod known dk (modulesJ ms) = (⟨.null, .null, .null, [⟨dk, ms⟩]⟩ : NCtx).spec known := by
  refine ((configCalls_map knownMod known NModule.toJ ms hw dk).trans (if_neg (Nat.not_le_of_lt (Nat.lt_succ_of_le hd)))).trans ?_
  exact C07_context knownMod known hk ⟨.null, .null, .null, [⟨dk, ms⟩]⟩ rfl

theorem NStream.wf_modules (s : NStream) (hw : s.wf = true) :
    s.modules.all (fun m => !reserved m.name) = true ∧
    s.modules.all (fun m => m.tests.all fun t => isParamMapping t.kwargs) = true := by
  simp only [NStream.wf, Bool.and_eq_true, List.all_eq_true] at hw ⊢
  exact ⟨fun m hm => (hw.2 m hm).1, fun m hm => (hw.2 m hm).2⟩

theorem C07_layout_modules (knownMod : String → Bool) (known : String → String → Bool)
    (hk : ∀ m t, known m t = true → knownMod m = true) (ms : List NModule) (dk : String)
    (hw : NStream.wf ⟨dk, ms⟩ = true) :
    configCalls knownMod known dk (modulesJ ms) = (⟨.null, .null, .null, [⟨dk, ms⟩]⟩ : NCtx).spec known := by
  obtain ⟨h1, h2⟩ := NStream.wf_modules ⟨dk, ms⟩ hw
  exact C07_layout_modules' knownMod known hk ms h1 (C07_depth_modules ms h2) dk

def pruneModule (known : String → String → Bool) (m : NModule) : NModule :=
  ⟨m.name, m.tests.filter fun t => known m.name t.name⟩

def pruneStream (knownMod : String → Bool) (known : String → String → Bool) (s : NStream) : NStream :=
  ⟨s.id, (s.modules.filter fun m => knownMod m.name).map (pruneModule known)⟩

/-- drop the modules that do not import and the tests that do not exist -/
def pruneCtx (knownMod : String → Bool) (known : String → String → Bool) (c : NCtx) : NCtx :=
  { c with streams := c.streams.map (pruneStream knownMod known) }

/-- unknown modules and unknown tests are skipped without affecting the remaining calls -/
theorem C07_unknown_skipped (knownMod : String → Bool) (known : String → String → Bool)
    (hk : ∀ m t, known m t = true → knownMod m = true) (c : NCtx) :
    (pruneCtx knownMod known c).spec known = c.spec known := by
  simp only [NCtx.spec, pruneCtx, List.flatMap_map]
  refine flatMap_congr' fun s _ => ?_
  simp only [pruneStream, List.flatMap_map]
  rw [flatMap_filter_of_nil]
  · exact flatMap_congr' fun m _ =>
      filterMap_filter_of_none fun t _ h => if_neg (ne_true_of_eq_false h)
  · intro m _ hm
    exact filterMap_unknown hk hm _ _ _

theorem C07_unknown_skipped_calls (knownMod : String → Bool) (known : String → String → Bool)
    (hk : ∀ m t, known m t = true → knownMod m = true) (c : NCtx) (hr : c.regionSeen = c.region) :
    contextCalls knownMod known (pruneCtx knownMod known c).toJ = contextCalls knownMod known c.toJ := by
  rw [C07_context knownMod known hk (pruneCtx knownMod known c) hr, C07_context knownMod known hk c hr,
    C07_unknown_skipped knownMod known hk]

mutual
theorem J.beq_refl : ∀ j : J, j.beq j = true
  | .null => rfl
  | .bool b => beq_self_eq_true b
  | .num q => beq_self_eq_true q
  | .str s => beq_self_eq_true s
  | .arr xs => J.beqList_refl xs
  | .obj kvs => J.beqKvs_refl kvs
theorem J.beqList_refl : ∀ xs : List J, J.beqList xs xs = true
  | [] => rfl
  | x :: xs => Bool.and_eq_true_iff.2 ⟨J.beq_refl x, J.beqList_refl xs⟩
theorem J.beqKvs_refl : ∀ kvs : List (String × J), J.beqKvs kvs kvs = true
  | [] => rfl
  | (k, x) :: kvs =>
    Bool.and_eq_true_iff.2 ⟨Bool.and_eq_true_iff.2 ⟨beq_self_eq_true k, J.beq_refl x⟩, J.beqKvs_refl kvs⟩
end

theorem CallSpec.beq_refl (x : CallSpec) : x.beq x = true := by
  simp [CallSpec.beq, J.beq_refl]

theorem sameCalls_refl (l : List CallSpec) : sameCalls l l = true := by
  induction l with
  | nil => rfl
  | cons x xs ih => simp [sameCalls, removeFirst, CallSpec.beq_refl, ih]

/-- of `C07.inDom` only `NStream.wf` and, for the `streams` layout, `hasParams` are used: neither `noDupKeys` nor any
    condition on the default key -/
theorem C07_main_eq (knownMod : String → Bool) (known : String → String → Bool)
    (hk : ∀ m t, known m t = true → knownMod m = true) (l : Layout) (dk : String) (cs : List NCtx) (t : J)
    (hd : C07.inDom l cs = true) (hl : layoutJ l cs = some t) (hr : ∀ c ∈ cs, c.regionSeen = c.region) :
    configCalls knownMod known dk t = specCalls known (rebindDefault l dk cs) := by
  simp only [C07.inDom, Bool.and_eq_true, List.all_eq_true] at hd
  obtain ⟨⟨hdom, -⟩, hparams⟩ := hd
  have one : ∀ c : NCtx, specCalls known [c] = c.spec known := fun c => List.append_nil _
  -- the arms of `layoutJ`: the shapes of `cs` a layout can express
  unfold layoutJ at hl
  split at hl
  · cases hl
    exact C07_layout_contexts knownMod known hk cs hr dk
  · next c =>
    cases hl
    exact (C07_layout_context knownMod known hk c (hr c (List.mem_singleton_self c)) dk).trans (one c).symm
  · next c =>
    obtain ⟨w, g, seen, ss⟩ := c
    dsimp only at hl
    split at hl
    · cases hl
      exact (C07_layout_streams knownMod known hk ss (List.all_eq_true.2 (hdom _ (List.mem_singleton_self _)).1)
        (List.all_eq_true.1 hparams _ (List.mem_singleton_self _)) dk).trans (one _).symm
    · cases hl
  · next c =>
    obtain ⟨w, g, seen, ss⟩ := c
    dsimp only at hl
    split at hl
    · next s =>
      cases hl
      obtain ⟨h1, h2⟩ := NStream.wf_modules s ((hdom _ (List.mem_singleton_self _)).1 s (List.mem_singleton_self s))
      exact (C07_layout_modules' knownMod known hk s.modules h1 (C07_depth_modules s.modules h2) dk).trans (one _).symm
    · cases hl
  · cases hl

/-- `C07.holds`: the observed `Config(...).calls` are the demanded calls up to order -/
theorem C07_main (knownMod : String → Bool) (known : String → String → Bool)
    (hk : ∀ m t, known m t = true → knownMod m = true) (l : Layout) (dk : String) (cs : List NCtx) (t : J)
    (hd : C07.inDom l cs = true) (hl : layoutJ l cs = some t) (hr : ∀ c ∈ cs, c.regionSeen = c.region) :
    C07.holds known l dk cs (configCalls knownMod known dk t) = true := by
  unfold C07.holds
  rw [C07_main_eq knownMod known hk l dk cs t hd hl hr]
  exact sameCalls_refl _

theorem realTest_realModule (m t : String) (h : realTest m t = true) : realModule m = true :=
  List.all_eq_true.1 (by decide +kernel : realTests.all (fun p => realModule p.1) = true) (m, t)
    (List.contains_iff_mem.1 h)

theorem C07_main_real (l : Layout) (dk : String) (cs : List NCtx) (t : J)
    (hd : C07.inDom l cs = true) (hl : layoutJ l cs = some t) (hr : ∀ c ∈ cs, c.regionSeen = c.region) :
    C07.holds realTest l dk cs (configCalls realModule realTest dk t) = true :=
  C07_main realModule realTest realTest_realModule l dk cs t hd hl hr

/-! ### F-09: a bare stream mapping without any parameter mapping -/

/-- such a mapping is only three levels deep, is therefore read as a MODULE mapping (stream ids taken for module names),
    and exposes no call at all although it names an existing test -/
theorem C07_F09_witness : ∃ ss : List NStream, ss.all NStream.wf = true ∧ hasParams ss = false ∧
    (streamsJ ss).depth = 3 ∧
    configCalls realModule realTest "_stream" (streamsJ ss) = [] ∧
    ((⟨.null, .null, .null, ss⟩ : NCtx).spec realTest) ≠ [] := by
  exact ⟨[⟨"sea_water_temperature", [⟨"qartod", [⟨"gross_range_test", .null⟩]⟩]⟩], by decide +kernel⟩

/-- in general: the `streams` branch of the dispatch (depth four or more) is never taken -/
theorem C07_F09_depth (ss : List NStream) (hp : hasParams ss = false) : (streamsJ ss).depth ≤ 3 :=
  (C07_depth_streams_iff ss).2 hp

section Examples

private def grossKw : J := .obj [("suspect_span", .arr [.num 1, .num 11]), ("fail_span", .arr [.num 0, .num 12])]
private def win : J := .obj [("starting", .str "2020-01-01"), ("ending", .str "2020-02-01")]
private def geo : J := .obj [("geometry", .obj [("type", .str "Point")])]

private def triples (l : List CallSpec) : List (String × String × String) :=
  l.map fun c => (c.stream, c.module, c.test)

private def exCs : List NCtx :=
  [ ⟨win, geo, geo, [⟨"temp", [⟨"qartod", [⟨"gross_range_test", grossKw⟩, ⟨"no_such_test", .null⟩]⟩,
                               ⟨"no_such_module", [⟨"gross_range_test", grossKw⟩]⟩]⟩]⟩,
    ⟨.null, .null, .null, [⟨"temp", [⟨"qartod", [⟨"spike_test", .obj []⟩]⟩]⟩,
                           ⟨"window", [⟨"axds", [⟨"valid_range_test", .null⟩]⟩]⟩]⟩ ]

example : C07.inDom .contexts exCs = true := by decide +kernel
example : triples (configCalls realModule realTest "_stream" (contextsJ exCs))
    = [("temp", "qartod", "gross_range_test"), ("temp", "qartod", "spike_test"), ("window", "axds", "valid_range_test")] := by
  decide +kernel
example : (configCalls realModule realTest "_stream" (contextsJ exCs)).map (fun c => c.window.beq win)
    = [true, false, false] := by decide +kernel
example : C07.holds realTest .contexts "_stream" exCs
    (configCalls realModule realTest "_stream" (contextsJ exCs)) = true := by decide +kernel

/-- one context, one stream carrying the default id: expressible in all four layouts -/
private def exOne : List NCtx :=
  [ ⟨.null, .null, .null, [⟨"_stream", [⟨"qartod", [⟨"gross_range_test", grossKw⟩, ⟨"no_such_test", .null⟩]⟩,
                                          ⟨"argo", [⟨"speed_test", .null⟩]⟩]⟩]⟩ ]

private def exCalls (l : Layout) : List (String × String × String) :=
  match layoutJ l exOne with
  | some t => triples (configCalls realModule realTest "_stream" t)
  | none => []

example : C07.inDom .contexts exOne = true ∧ C07.inDom .context exOne = true ∧
    C07.inDom .streams exOne = true ∧ C07.inDom .modules exOne = true := by decide +kernel
example : exCalls .contexts = [("_stream", "qartod", "gross_range_test"), ("_stream", "argo", "speed_test")] := by
  decide +kernel
example : exCalls .context = exCalls .contexts ∧ exCalls .streams = exCalls .contexts ∧
    exCalls .modules = exCalls .contexts := by decide +kernel
example : ∀ l ∈ [Layout.contexts, .context, .streams, .modules], ∀ t, layoutJ l exOne = some t →
    C07.holds realTest l "_stream" exOne (configCalls realModule realTest "_stream" t) = true :=
  fun l _ t ht => C07_main_real l "_stream" exOne t (by cases l <;> decide +kernel) ht
    (by intro c hc; simp only [exOne, List.mem_singleton] at hc; subst hc; rfl)

/-- probes: a reserved default key, a stream id named like a context key, a repeated test name -/
example : triples (configCalls realModule realTest "streams" (modulesJ [⟨"qartod", [⟨"spike_test", .null⟩]⟩]))
    = [("streams", "qartod", "spike_test")] := by decide +kernel
example : triples (configCalls realModule realTest "_stream"
      (streamsJ [⟨"window", [⟨"qartod", [⟨"spike_test", .obj []⟩, ⟨"spike_test", .null⟩]⟩]⟩]))
    = [("window", "qartod", "spike_test"), ("window", "qartod", "spike_test")] := by decide +kernel

end Examples

end IoosQc
