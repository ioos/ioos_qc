/-
  C08 — climatology_test.  The code loops over the members of the configuration in order and, for
  each, performs three masked assignments FAIL / SUSPECT / GOOD on the points the member matches
  (time and depth spans inclusive; a depth-banded member is skipped when no depth was supplied at
  all).  The property: a present point gets the flag of the LAST member covering it, UNKNOWN when
  none does; a missing value is MISSING — for any member list, series and depth pattern, and
  parametrically in the calendar function `periodOf`.
-/
import IoosQc.Lemmas.Ladder

namespace IoosQc

/-- The code's match mask is the property's "covers". -/
theorem memberMatches_eq_covers (periodOf : Period → Int → Int) (m : Member) (t : Int) (z : V) :
    memberMatches m (memberTime periodOf m t) z = memberCovers periodOf m t z := by
  unfold memberMatches memberCovers inside
  cases m.zspan with
  | none => simp [Bool.decide_and]
  | some zs => cases z <;> simp [Bool.decide_and]

theorem C08_depth_required (periodOf : Period → Int → Int) (m : Member) (t : Int)
    (hz : m.zspan.isSome = true) : memberCovers periodOf m t none = false := by
  unfold memberCovers
  cases h : m.zspan with
  | none => simp [h] at hz
  | some zs => simp

theorem memberApply_present (periodOf : Period → Int → Int) (m : Member) (acc : Flag) (t : Int)
    (v : Rat) (z : V) (noDepth : Bool) (hz : noDepth = true → z = none) :
    memberApply m acc (memberTime periodOf m t) (some v) z noDepth =
      if memberCovers periodOf m t z then classify m v else acc := by
  unfold memberApply
  by_cases hskip : (m.zspan.isSome && noDepth) = true
  · -- skipped: a depth-banded member, and no depth at all, so `z` is missing here
    rw [if_pos hskip]
    rw [Bool.and_eq_true] at hskip
    rw [hz hskip.2, C08_depth_required periodOf m t hskip.1]
    rfl
  · -- the three ordered assignments under the mask `vi` give the member's classification
    have key : ∀ (acc : Flag) (vi f s : Bool),
        overrides acc [(vi && f, .fail), (vi && !f && s, .suspect), (vi && !f && !s, .good)] =
          if vi then ladder false false f s else acc := by
      intro acc vi f s; cases vi <;> cases f <;> cases s <;> rfl
    rw [if_neg hskip]
    simp only [Option.isSome_some, Bool.or_true, Bool.and_true, memberMatches_eq_covers]
    refine (key ..).trans ?_
    rw [classify_ladder]
    cases m.fspan <;> simp

theorem climAt_missing (periodOf : Period → Int → Int) (ms : List Member) (noDepth : Bool)
    (t : Int) (z : V) : climAt periodOf ms noDepth t none z = .missing := by
  simp [climAt]

theorem climAt_present (periodOf : Period → Int → Int) (ms : List Member) (noDepth : Bool)
    (t : Int) (v : Rat) (z : V) (hz : noDepth = true → z = none) :
    climAt periodOf ms noDepth t (some v) z =
      (match (ms.filter fun m => memberCovers periodOf m t z).getLast? with
       | none => .unknown
       | some m => classify m v) := by
  show overrides (ms.foldl (fun acc m =>
    memberApply m acc (memberTime periodOf m t) (some v) z noDepth) .unknown) [] = _
  simp only [memberApply_present periodOf _ _ t v z noDepth hz, foldl_last_wins]
  cases (ms.filter fun m => memberCovers periodOf m t z).getLast? <;> rfl

theorem climAt_spec (periodOf : Period → Int → Int) (ms : List Member) (noDepth : Bool)
    (t : Int) (x z : V) (hz : noDepth = true → z = none) :
    climAt periodOf ms noDepth t x z ∈ climSpecAt periodOf ms t x z := by
  cases x with
  | none => simp [climAt_missing, climSpecAt]
  | some v =>
    rw [climAt_present periodOf ms noDepth t v z hz]
    unfold climSpecAt
    cases (ms.filter fun m => memberCovers periodOf m t z).getLast? <;> simp

-- `h` is not used: the model conforms on every call
set_option linter.unusedVariables false in
/-- C08; the property at one point is `climSpecAt` (Props/Spec.lean). -/
theorem C08_climatology (periodOf : Period → Int → Int) (ms : List Member)
    (inp : List V) (t : List Int) (z : List V)
    (h : (TestCall.climatology ms inp t z).inDom = true) :
    conforms ((TestCall.climatology ms inp t z).spec periodOf)
             ((TestCall.climatology ms inp t z).run periodOf).toObs = true := by
  simp only [TestCall.spec, TestCall.run, climatologyTest]
  exact conforms_flags_range inp.length _ _
    (fun i _ => climAt_spec periodOf ms _ _ _ _ (fun hall => getV_of_all_none z i hall))

def climFlagAt (periodOf : Period → Int → Int) (ms : List Member)
    (inp : List V) (t : List Int) (z : List V) (i : Nat) : Flag :=
  climAt periodOf ms (z.all Option.isNone) (t.getD i 0) (getV inp i) (getV z i)

theorem climatologyTest_eq (periodOf : Period → Int → Int) (ms : List Member)
    (inp : List V) (t : List Int) (z : List V) :
    climatologyTest periodOf ms inp t z =
      .ok ((List.range inp.length).map (climFlagAt periodOf ms inp t z)) := rfl

theorem climFlagAt_present (periodOf : Period → Int → Int) (ms : List Member)
    (inp : List V) (t : List Int) (z : List V) (i : Nat) (v : Rat) (hx : getV inp i = some v) :
    climFlagAt periodOf ms inp t z i =
      (match (ms.filter fun m => memberCovers periodOf m (t.getD i 0) (getV z i)).getLast? with
       | none => .unknown
       | some m => classify m v) := by
  unfold climFlagAt
  rw [hx]
  exact climAt_present periodOf ms _ _ v _ (fun hall => getV_of_all_none z i hall)

theorem climFlagAt_missing (periodOf : Period → Int → Int) (ms : List Member)
    (inp : List V) (t : List Int) (z : List V) (i : Nat) (hx : getV inp i = none) :
    climFlagAt periodOf ms inp t z i = .missing := by
  unfold climFlagAt; rw [hx]; exact climAt_missing ..

theorem C08_no_members (periodOf : Period → Int → Int) (inp : List V) (t : List Int)
    (z : List V) :
    climatologyTest periodOf [] inp t z =
      .ok ((List.range inp.length).map fun i =>
        match getV inp i with | some _ => Flag.unknown | none => Flag.missing) := by
  rw [climatologyTest_eq]
  congr 1
  apply List.map_congr_left
  intro i _
  cases hx : getV inp i with
  | none => exact climFlagAt_missing periodOf [] inp t z i hx
  | some v => rw [climFlagAt_present periodOf [] inp t z i v hx]; rfl

theorem C08_uncovered (periodOf : Period → Int → Int) (ms : List Member)
    (inp : List V) (t : List Int) (z : List V) (i : Nat) (v : Rat) (hx : getV inp i = some v)
    (hnone : ∀ m ∈ ms, memberCovers periodOf m (t.getD i 0) (getV z i) = false) :
    climFlagAt periodOf ms inp t z i = .unknown := by
  rw [climFlagAt_present periodOf ms inp t z i v hx]
  have : (ms.filter fun m => memberCovers periodOf m (t.getD i 0) (getV z i)) = [] := by
    simp [List.filter_eq_nil_iff]; exact hnone
  rw [this]; rfl

theorem C08_bounds_inclusive (periodOf : Period → Int → Int) (ms : List Member)
    (inp : List V) (t : List Int) (z : List V) (i : Nat) (v : Rat) (m : Member)
    (hx : getV inp i = some v)
    (hlast : (ms.filter fun m => memberCovers periodOf m (t.getD i 0) (getV z i)).getLast?
              = some m)
    (hf : m.fspan = none) (hsorted : m.vspan.1 ≤ m.vspan.2)
    (hv : v = m.vspan.1 ∨ v = m.vspan.2) :
    climFlagAt periodOf ms inp t z i = .good := by
  rw [climFlagAt_present periodOf ms inp t z i v hx, hlast]
  simp only [classify_ladder, ladder_eq_good, hf]
  rcases hv with rfl | rfl <;> grind

theorem C08_fail_bounds_inclusive (m : Member) (f : Rat × Rat) (hf : m.fspan = some f)
    (hsorted : f.1 ≤ f.2) :
    classify m f.1 ≠ .fail ∧ classify m f.2 ≠ .fail := by
  simp only [classify_ladder, ne_eq, ladder_eq_fail, hf, decide_eq_true_eq]
  exact ⟨fun h => h.2.2.elim Rat.lt_irrefl (Rat.not_lt.2 hsorted),
    fun h => h.2.2.elim (Rat.not_lt.2 hsorted) Rat.lt_irrefl⟩

theorem C08_span_inclusive (periodOf : Period → Int → Int) (m : Member) (t : Int) (zs : Rat × Rat)
    (hz : m.zspan = some zs) (hzs : zs.1 ≤ zs.2)
    (ht : memberTime periodOf m t = m.tspan.1 ∨ memberTime periodOf m t = m.tspan.2)
    (hts : m.tspan.1 ≤ m.tspan.2) :
    memberCovers periodOf m t (some zs.1) = true ∧ memberCovers periodOf m t (some zs.2) = true := by
  unfold memberCovers
  simp only [hz]
  grind

theorem C08_append_noncovering (periodOf : Period → Int → Int) (ms : List Member) (m : Member)
    (inp : List V) (t : List Int) (z : List V)
    (hm : ∀ i, i < inp.length → memberCovers periodOf m (t.getD i 0) (getV z i) = false) :
    climatologyTest periodOf (ms ++ [m]) inp t z = climatologyTest periodOf ms inp t z := by
  rw [climatologyTest_eq, climatologyTest_eq]
  congr 1
  apply List.map_congr_left
  intro i hi
  have hi' : i < inp.length := List.mem_range.1 hi
  cases hx : getV inp i with
  | none => rw [climFlagAt_missing _ _ _ _ _ _ hx, climFlagAt_missing _ _ _ _ _ _ hx]
  | some v =>
    rw [climFlagAt_present _ _ _ _ _ _ v hx, climFlagAt_present _ _ _ _ _ _ v hx]
    have hmi := hm i hi'
    simp only [List.filter_append, List.filter_cons, List.filter_nil, hmi, Bool.false_eq_true,
      if_false, List.append_nil]

theorem C08_append_covering (periodOf : Period → Int → Int) (ms : List Member) (m : Member)
    (inp : List V) (t : List Int) (z : List V) (i : Nat) (v : Rat) (hx : getV inp i = some v)
    (hm : memberCovers periodOf m (t.getD i 0) (getV z i) = true) :
    climFlagAt periodOf (ms ++ [m]) inp t z i = classify m v := by
  rw [climFlagAt_present _ _ _ _ _ _ v hx]
  simp only [List.filter_append, List.filter_cons, List.filter_nil, hm, if_true,
    List.getLast?_concat]

/-- A member's fields: time span, value span, fail span, depth band, period.  In March the second
    member decides where the depth is in its band (inclusive at depth 50 and value 4) and overrules
    the first's GOOD with SUSPECT; at depth 60 the first decides again. -/
example : (climatologyTest IoosQc.periodOf
      [ ⟨(1, 6), (0, 10), some (-5, 20), none, some .month⟩,
        ⟨(3, 4), (2, 4), none, some (0, 50), some .month⟩ ]
      [some 5, some 11, some 25, some 4, some 5, some 3, none, some 1]
      [0, 86400, 2*86400, 70*86400, 71*86400, 72*86400, 73*86400, 250*86400]
      [some 10, some 10, none, some 50, some 10, some 60, some 10, some 10]).toObs
    = .flags [1, 3, 4, 1, 3, 1, 9, 2] := by
  decide +kernel

/-- No depth at all: the depth-banded member is skipped. -/
example : (climatologyTest IoosQc.periodOf
      [ ⟨(1, 6), (0, 10), none, none, some .month⟩,
        ⟨(1, 6), (2, 4), none, some (0, 50), some .month⟩ ]
      [some 5, some 11] [0, 86400] [none, none]).toObs = .flags [1, 3] := by
  decide +kernel

end IoosQc
