/-
  The array-level definitions `grossArr`, `rocArr`, `spikeArr` of `Model/Np.lean`, written by hand after the Python bodies (raw data
  under masks, comparisons on the raw data, assignments through masked boolean indexes, the closing `flag_arr[….mask] = MISSING`),
  compute what the pointwise models of `Model/Tests.lean` compute, for every input.  `Theorems/NpSrcTests.lean` proves the programs
  generated from the source equal to them.  The numpy primitives of `Model/Np.lean` are checked against the installed numpy by the
  correspondence run.
-/
import IoosQc.Lemmas.NpTab

namespace IoosQc.Np

@[np] theorem applyThr_tab (o : Option Rat) (n : Nat) (f : Nat → Flag) (c : Nat → Cell) (x : Flag) :
    applyThr o (tab n f) (tab n c) x = tab n fun i => if (match o with | some s => (c i).d.gtS s | none => false) then x else f i := by
  cases o
  · exact tab_congr fun i _ => by simp
  · simp only [applyThr, np]

/-- whatever `diff` holds under its mask, the closing `flag_arr[diff.mask] = MISSING` repairs what the comparisons made of it -/
theorem spikeFlags_of_cellVal (m : SpikeMethod) (sus fail : Option Rat) (xs : List V) (c : Nat → Cell)
    (h : ∀ i, i < xs.length → cellVal (c i) (spikeDiff m xs i)) :
    spikeFlags sus fail (tab xs.length c) = tab xs.length (spikeAt m sus fail xs) := by
  simp only [spikeFlags, np]
  apply tab_congr; intro i hi
  obtain ⟨hm, hv⟩ := h i hi
  unfold spikeAt
  cases hd : spikeDiff m xs i with
  | none => simp [overrides, hm, hd]
  | some v => simp [overrides, hm, hd, hv v hd, vgt, Fl.gtS]; rfl

theorem spikeDiffAverage_val (xs : List V) :
    ∃ c, spikeDiffAverage (ofInput xs) = tab xs.length c ∧ ∀ i, i < xs.length → cellVal (c i) (spikeDiff .average xs i) := by
  -- the witness is not written out: `simp only [np]` computes the program to some `tab xs.length F`, and `rfl` assigns `F` to `?c`
  refine ⟨_, by simp only [spikeDiffAverage, np]; rfl, fun i hi => ?_⟩
  unfold spikeDiff
  by_cases hend : i = 0 ∨ i + 1 = xs.length
  · simp only [hend, if_true]
    cases getV xs i <;> simp [cellVal, cellOf, Fl.isNan, Fl.sub, Fl.lift2, Fl.abs, Rat.sub_eq_add_neg, Rat.add_zero]
  · obtain ⟨k, rfl⟩ : ∃ k, i = k + 1 := ⟨i - 1, by omega⟩
    simp only [hend, if_false, Nat.add_sub_cancel]
    cases getV xs k <;> cases getV xs (k + 1) <;> cases getV xs (k + 2) <;>
      simp [cellVal, divCell, cellOf, Fl.isNan, Fl.sub, Fl.add, Fl.lift2, Fl.abs, Fl.divS, spikeMag]

theorem spikeDiffDifferential_val (xs : List V) :
    ∃ c, spikeDiffDifferential (ofInput xs) = tab xs.length c ∧ ∀ i, i < xs.length → cellVal (c i) (spikeDiff .differential xs i) := by
  refine ⟨_, by simp only [spikeDiffDifferential, np]; rfl, fun i hi => ?_⟩
  unfold spikeDiff
  by_cases hend : i = 0 ∨ i + 1 = xs.length
  · simp [hend, cellVal]
  · obtain ⟨k, rfl⟩ : ∃ k, i = k + 1 := ⟨i - 1, by omega⟩
    simp only [hend, if_false, Nat.add_sub_cancel]
    cases getV xs k <;> cases getV xs (k + 1) <;> cases getV xs (k + 1 + 1) <;>
      simp [cellVal, cellOf, Fl.sub, Fl.mul, Fl.min, Fl.lift2, Fl.abs, Fl.geS, spikeMag]
    -- left: `p`, `x` present and `q` missing (masked in either branch), and all three present
    next p x => split <;> rfl
    next p x q =>
      by_cases hneg : (x - p) * (q - x) < 0
      · simp [hneg, Rat.not_le.mpr hneg]
      · simp [hneg, Rat.not_lt.mp hneg]

theorem C09_np_spike (method : String) (sus fail : Option Rat) (inp : List V) :
    spikeArr method sus fail inp = spikeTest method sus fail inp := by
  unfold spikeArr spikeTest
  by_cases ha : method = "average"
  · obtain ⟨c, hc, hv⟩ := spikeDiffAverage_val inp
    simp only [ha, if_true, hc, spikeFlags_of_cellVal _ _ _ _ _ hv]; rfl
  · by_cases hd : method = "differential"
    · obtain ⟨c, hc, hv⟩ := spikeDiffDifferential_val inp
      simp only [hd, if_true, hc, spikeFlags_of_cellVal _ _ _ _ _ hv]; rfl
    · simp [ha, hd]

theorem grossBody_eq (f : Rat × Rat) (u : Option (Rat × Rat)) (inp : List V) :
    grossBody f u (ofInput inp) = inp.map (grossAt f u) := by
  rw [map_eq_tab]
  cases u <;> simp only [grossBody, np] <;> rfl

theorem C03_np_gross (fail : SeqArg) (suspect : Option SeqArg) (inp : List V) :
    grossArr fail suspect inp = grossRange fail suspect inp := by
  unfold grossArr grossRange
  simp only [grossBody_eq]
  rfl

theorem rocBody_eq (thr : Rat) (inp : List V) (ts : List Int) (hlen : inp.length = ts.length) :
    rocBody thr (ofInput inp) ts = tab inp.length (rocAt thr inp ts) := by
  simp only [rocBody, np, ← hlen]
  apply tab_congr; intro i hi
  unfold rocAt rocRate
  cases i with
  | zero => cases getV inp 0 <;> simp [overrides, vgt, Fl.gtS]
  | succ j =>
    simp only [Nat.add_sub_cancel]
    cases getV inp (j + 1) <;> cases getV inp j <;>
      simp [overrides, cellOf, vgt, Fl.gtS, Fl.sub, Fl.lift2, Fl.divS, Fl.abs, Fl.isNan, divCell]

theorem C10_np_roc (inp : List V) (ts : List Int) (thr : Rat) : rocArr inp ts thr = rocTest inp ts thr := by
  unfold rocArr rocTest
  by_cases h : inp.length = ts.length
  · simp [h, rocBody_eq thr inp ts h, map_range]
  · simp [h]

end IoosQc.Np
