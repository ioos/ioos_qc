/-
  C18 — fault isolation: a run with entries that cannot execute is the run of the healthy entries alone
  (`C18_isolation`), for any number of healthy and failing entries, every fault kind, at every position.  `Call.run`
  itself is `C18_call_run` in C05.lean; the pipeline forms are `C18_sys_*` in Sys.lean.
-/
import IoosQc.Props.C18
import IoosQc.Lemmas.ListDrop

namespace IoosQc

theorem C18_isolation (es : List Entry) : runEntries es = runEntries (es.filter Entry.healthy) :=
  (filterMap_filter_of_none fun e _ h => by simp [h]).symm

theorem C18_insert_fault (a b : List Entry) (f : Entry) (hf : f.healthy = false) :
    runEntries (a ++ f :: b) = runEntries (a ++ b) := by
  simp [runEntries, List.filterMap_append, hf]

/-- `h`: `es'` is `es` with failing entries inserted or removed at any positions. -/
theorem C18_insert_faults (es es' : List Entry) (h : es.filter Entry.healthy = es'.filter Entry.healthy) :
    runEntries es = runEntries es' := by
  rw [C18_isolation es, C18_isolation es', h]

/-- Every healthy entry yields exactly the result it yields when configured alone. -/
theorem C18_alone (es : List Entry) (e : Entry) (he : e ∈ es) (hh : e.healthy = true) :
    (e.key, e.result) ∈ runEntries es ∧ runEntries [e] = [(e.key, e.result)] := by
  constructor
  · simp only [runEntries, List.mem_filterMap]
    exact ⟨e, he, by simp [hh]⟩
  · simp [runEntries, hh]

theorem C18_fault_silent (f : Entry) (hf : f.healthy = false) : runEntries [f] = [] := by
  simp [runEntries, hf]

/-- `C18.holds` is what the correspondence run evaluates on the observed results; the model's own run passes it. -/
theorem C18_main (es : List Entry) : C18.holds es (runEntries es) = true := by
  simp [C18.holds, countOf]

example : runEntries [⟨"v1:qartod.spike_test", none, 7⟩, ⟨"v1:nosuch.x", some .unknownModule, 0⟩,
    ⟨"v2:qartod.gross_range_test", some .badParams, 0⟩, ⟨"v2:argo.speed_test", none, 9⟩]
    = [("v1:qartod.spike_test", 7), ("v2:argo.speed_test", 9)] := by decide

end IoosQc
