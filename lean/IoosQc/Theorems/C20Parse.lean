/-
  C20 (parser side) — the recursive-descent grammar of `fx_parser` builds the tree of ordinary
  arithmetic: `*` `/` bind tighter than `+` `-`, all four are LEFT associative, a unary minus
  binds tighter than any binary operator.  Stated as round trips printer → parser.
-/
import IoosQc.Model.FxParse

namespace IoosQc

/-! what may follow a complete term / expression: nothing that continues the `term` loop / the `expr` loop -/

def noMulStart : List PTok → Prop
  | [] => True
  | t :: _ => t.mulOp? = none

def noAddStart : List PTok → Prop
  | [] => True
  | t :: _ => t.addOp? = none

theorem BinOp.tok_cases (op : BinOp) :
    op.prec = 0 ∧ op.tok.addOp? = some op ∧ op.tok.mulOp? = none ∨ op.prec = 1 ∧ op.tok.mulOp? = some op := by
  cases op <;> simp [BinOp.prec, BinOp.tok, PTok.addOp?, PTok.mulOp?]

/-! Every fact about a parser function has the upward-closed form `∀ g, n ≤ g → parse g … = some …`: fuel bounds compose by
    addition and no monotonicity lemma is needed. -/

/-- one unfolding of a parser function; at its uses `n` is found by unification with the bound to be shown (`4 * (k + 1)` unfolds
    to `4 * k + 3 + 1`) -/
theorem fuel_succ {P : Nat → Prop} {n : Nat} (h : ∀ g, n ≤ g → P (g + 1)) : ∀ g, n + 1 ≤ g → P g
  | 0, hg => absurd hg (by omega)
  | g + 1, hg => h g (by omega)

theorem termLoop_stop (e : Expr) (rest : List PTok) (h : noMulStart rest) :
    ∀ g, 1 ≤ g → termLoop g e rest = some (e, rest) :=
  fuel_succ fun g _ => by
    cases rest with
    | nil => rfl
    | cons t r => rw [termLoop, show t.mulOp? = none from h]

theorem exprLoop_stop (e : Expr) (rest : List PTok) (h : noAddStart rest) :
    ∀ g, 1 ≤ g → exprLoop g e rest = some (e, rest) :=
  fuel_succ fun g _ => by
    cases rest with
    | nil => rfl
    | cons t r => rw [exprLoop, show t.addOp? = none from h]

/-! Token strings that parse, at the three levels of the grammar.  `4 * ts.length` fuel (and 1, 3 more at the outer levels) always
    suffices, so no bound is carried; at the top that is `4 * n + 4`, within the `5 * n + 5` that `parseAll` supplies. -/

def IsAtom (e : Expr) (ts : List PTok) : Prop :=
  ∀ rest g, 4 * ts.length ≤ g → parseAtom g (ts ++ rest) = some (e, rest)

/-- `ts ++ rest` parses as a term to whatever the `term` loop makes of `e` and `rest` -/
def IsTerm (e : Expr) (ts : List PTok) : Prop :=
  ∀ rest f res, (∀ g, f ≤ g → termLoop g e rest = some res) →
    ∀ g, f + 4 * ts.length + 1 ≤ g → parseTerm g (ts ++ rest) = some res

/-- The loop hypotheses are what makes LEFT associativity go through: for `a - b` the fact about `a` is used with
    `rest = "- b …"`. -/
def IsExpr (e : Expr) (ts : List PTok) : Prop :=
  ∀ rest f res, noMulStart rest → (∀ g, f ≤ g → exprLoop g e rest = some res) →
    ∀ g, f + 4 * ts.length + 3 ≤ g → parseExpr g (ts ++ rest) = some res

theorem isAtom_num (q : Rat) : IsAtom (.num q) [.num q] :=
  fun _ => fuel_succ fun _ _ => rfl

theorem isAtom_stat (s : StatName) : IsAtom (.stat s) [.stat s] :=
  fun _ => fuel_succ fun _ _ => rfl

theorem IsAtom.neg {e : Expr} {ts : List PTok} (h : IsAtom e ts) : IsAtom (.neg e) (.minus :: ts) :=
  fun rest => fuel_succ fun g hg => by
    rw [List.cons_append, parseAtom, h rest g (Nat.le_of_add_right_le hg)]

theorem IsAtom.term {e : Expr} {ts : List PTok} (h : IsAtom e ts) : IsTerm e ts :=
  fun rest _ _ hl => fuel_succ fun g hg => by
    rw [parseTerm, h rest g (Nat.le_of_add_left_le hg)]; exact hl g (Nat.le_of_add_right_le hg)

theorem IsTerm.expr {e : Expr} {ts : List PTok} (h : IsTerm e ts) : IsExpr e ts :=
  fun rest f _ hr hl => fuel_succ fun g hg => by
    rw [parseExpr, h rest 1 _ (termLoop_stop e rest hr) g (by omega)]; exact hl g (by omega)

theorem IsExpr.paren {e : Expr} {ts : List PTok} (h : IsExpr e ts) : IsAtom e (.lparen :: ts ++ [.rparen]) := by
  intro rest g hg
  simp only [List.length_append, List.length_cons, List.length_nil] at hg
  obtain ⟨g, rfl⟩ : ∃ k, g = k + 1 := ⟨g - 1, by omega⟩
  simp only [List.cons_append, List.append_assoc, List.nil_append]
  rw [parseAtom, h (.rparen :: rest) 1 _ rfl (exprLoop_stop _ _ rfl) g (by omega)]

theorem IsTerm.mul {op : BinOp} {t : PTok} {a b : Expr} {ta tb : List PTok} (ht : t.mulOp? = some op)
    (ha : IsTerm a ta) (hb : IsAtom b tb) : IsTerm (.bin op a b) (ta ++ t :: tb) := by
  intro rest f res hl g hg
  rw [List.append_assoc, List.cons_append]
  simp only [List.length_append, List.length_cons] at hg
  refine ha _ (f + 4 * tb.length + 1) res (fuel_succ fun g hg => ?_) g (by omega)
  rw [termLoop, ht, hb rest g (Nat.le_of_add_left_le hg)]
  exact hl g (Nat.le_of_add_right_le hg)

theorem IsExpr.add {op : BinOp} {t : PTok} {a b : Expr} {ta tb : List PTok} (ht : t.addOp? = some op) (hm : t.mulOp? = none)
    (ha : IsExpr a ta) (hb : IsTerm b tb) : IsExpr (.bin op a b) (ta ++ t :: tb) := by
  intro rest f res hr hl g hg
  rw [List.append_assoc, List.cons_append]
  simp only [List.length_append, List.length_cons] at hg
  refine ha (t :: (tb ++ rest)) (f + 4 * tb.length + 3) res hm (fuel_succ fun g hg => ?_) g (by omega)
  rw [exprLoop, ht, hb rest 1 _ (termLoop_stop b rest hr) g (by omega)]
  exact hl g (by omega)

theorem IsExpr.parses {e : Expr} {ts : List PTok} (h : IsExpr e ts) : parseAll ts = some e := by
  have := h [] 1 (e, []) trivial (exprLoop_stop e [] trivial) (parseFuel ts) (by simp only [parseFuel]; omega)
  rw [List.append_nil] at this
  simp only [parseAll, this]

theorem isAtom_toToksFull (e : Expr) : IsAtom e e.toToksFull := by
  induction e with
  | num q => exact isAtom_num q
  | stat s => exact isAtom_stat s
  | neg e ih => exact ih.term.expr.paren.neg
  | bin op a b iha ihb =>
    rcases op.tok_cases with ⟨_, ha, hm⟩ | ⟨_, hm⟩
    · exact (iha.term.expr.add ha hm ihb.term).paren
    · exact (iha.term.mul hm ihb).expr.paren

-- `h` is not used: at the level of tokens a negative literal round-trips like any other (only the lexer has no token for it)
set_option linter.unusedVariables false in
theorem C20_parse_full (e : Expr) (h : e.nonneg = true) : parseAll e.toToksFull = some e :=
  (isAtom_toToksFull e).term.expr.parses

theorem parse_toToksP (e : Expr) :
    IsExpr e (e.toToksP 0) ∧ IsTerm e (e.toToksP 1) ∧ IsAtom e (e.toToksP 2) := by
  induction e with
  | num q => exact ⟨(isAtom_num q).term.expr, (isAtom_num q).term, isAtom_num q⟩
  | stat s => exact ⟨(isAtom_stat s).term.expr, (isAtom_stat s).term, isAtom_stat s⟩
  | neg e ih => exact ⟨ih.2.2.neg.term.expr, ih.2.2.neg.term, ih.2.2.neg⟩
  | bin op a b iha ihb =>
    simp only [Expr.toToksP]
    rcases op.tok_cases with ⟨hp, ha, hm⟩ | ⟨hp, hm⟩ <;> simp only [hp]
    · have h0 := iha.1.add ha hm ihb.2.1
      exact ⟨h0, h0.paren.term, h0.paren⟩
    · have h1 := iha.2.1.mul hm ihb.2.2
      exact ⟨h1.expr, h1, h1.expr.paren⟩

theorem parseAll_toToks (e : Expr) : parseAll e.toToks = some e := (parse_toToksP e).1.parses

-- `h` is not used, as in `C20_parse_full`
set_option linter.unusedVariables false in
/-- with minimal parentheses: precedence, LEFT associativity and unary minus are those of ordinary arithmetic -/
theorem C20_parse_min (e : Expr) (h : e.nonneg = true) : parseAll e.toToks = some e :=
  parseAll_toToks e

theorem C20_parse_eval (st : Stats) (e : Expr) :
    (parseAll e.toToks).bind (Expr.eval st) = e.eval st := by
  rw [parseAll_toToks]; rfl

example : parseString "1 + 2 * 3" = some (.bin .add (.num 1) (.bin .mul (.num 2) (.num 3))) := by
  decide +kernel
example : parseString "8 / 2 / 2" = some (.bin .div (.bin .div (.num 8) (.num 2)) (.num 2)) := by
  decide +kernel
example : parseString "8 / 2 / 2" ≠ some (.bin .div (.num 8) (.bin .div (.num 2) (.num 2))) := by
  decide +kernel
example : parseString "1 - 2 - 3" = some (.bin .sub (.bin .sub (.num 1) (.num 2)) (.num 3)) := by
  decide +kernel
example : parseString "2 - -3" = some (.bin .sub (.num 2) (.neg (.num 3))) := by decide +kernel
example : parseString "- - mean" = some (.neg (.neg (.stat .mean))) := by decide +kernel
example : parseString "-3" = some (.neg (.num 3)) := by decide +kernel
example : parseString "- 3" = some (.neg (.num 3)) := by decide +kernel
example : parseString "-2 * 3" = some (.bin .mul (.neg (.num 2)) (.num 3)) := by decide +kernel
-- unary plus is accepted and ignored (no node), as in the pyparsing grammar
example : parseString "+ 3" = some (.num 3) := by decide +kernel
example : parseString "- + - 3" = some (.neg (.neg (.num 3))) := by decide +kernel
example : parseString "( max - min ) / 2"
    = some (.bin .div (.bin .sub (.stat .max) (.stat .min)) (.num 2)) := by decide +kernel
example : parseString "mean + 3 * std"
    = some (.bin .add (.stat .mean) (.bin .mul (.num 3) (.stat .std))) := by decide +kernel
example : parseString "mean+3*std" = parseString "mean + 3 * std" := by decide +kernel
example : parseString "1.5e-1" = some (.num (3 / 20)) := by decide +kernel
example : parseString "2.e2" = some (.num 200) := by decide +kernel
example : parseString "1E+3" = some (.num 1000) := by decide +kernel
example : parseString "0.25" = some (.num (1 / 4)) := by decide +kernel
example : parseString "( 1 + 2" = none := by decide +kernel
example : parseString "1 +" = none := by decide +kernel
example : parseString "* 3" = none := by decide +kernel
example : parseString "1 2" = none := by decide +kernel
example : parseString "foo + 1" = none := by decide +kernel
example : parseString "1e" = none := by decide +kernel          -- number `1`, identifier `e`
example : parseString "1 + 2 )" = none := by decide +kernel
example : parseString "( )" = none := by decide +kernel
example : parseString "" = none := by decide +kernel
example : parseString "min2" = none := by decide +kernel
example : parseString "2 # 3" = none := by decide +kernel
example : (parseString "8 / 2 / 2").bind (Expr.eval ⟨0, 0, 0, 0⟩) = some 2 := by decide +kernel
example : (parseString "1 + 2 * 3").bind (Expr.eval ⟨0, 0, 0, 0⟩) = some 7 := by decide +kernel
example : (parseString "2 - -3").bind (Expr.eval ⟨0, 0, 0, 0⟩) = some 5 := by decide +kernel
example : (parseString "mean + 3 * std").bind (Expr.eval ⟨1, 9, 4, 2⟩) = some 10 := by
  decide +kernel
example : (parseString "( max - min ) / 2").bind (Expr.eval ⟨1, 9, 4, 2⟩) = some 4 := by
  decide +kernel
example : (parseString "1 / ( 2 - 2 )").bind (Expr.eval ⟨0, 0, 0, 0⟩) = none := by decide +kernel
example : (Expr.bin .div (.bin .div (.num 8) (.num 2)) (.num 2)).toToks
    = [.num 8, .slash, .num 2, .slash, .num 2] := by decide +kernel
example : (Expr.bin .div (.num 8) (.bin .div (.num 2) (.num 2))).toToks
    = [.num 8, .slash, .lparen, .num 2, .slash, .num 2, .rparen] := by decide +kernel
example : (Expr.bin .sub (.num 2) (.neg (.num 3))).toToks
    = [.num 2, .minus, .minus, .num 3] := by decide +kernel
example : (Expr.neg (.bin .mul (.num 2) (.num 3))).toToks
    = [.minus, .lparen, .num 2, .times, .num 3, .rparen] := by decide +kernel
example : (Expr.bin .mul (.neg (.num 2)) (.num 3)).toToks
    = [.minus, .num 2, .times, .num 3] := by decide +kernel
example : (Expr.bin .mul (.bin .add (.num 1) (.num 2)) (.num 3)).toToksFull
    = [.lparen, .lparen, .num 1, .plus, .num 2, .rparen, .times, .num 3, .rparen] := by
  decide +kernel

end IoosQc
