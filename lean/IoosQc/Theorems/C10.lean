/-
  C10 — `rate_of_change_test` and `argo.speed_test` flag a point by its change from the previous
  point per elapsed second: the models conform to `rocSpec` / `speedSpec` for every series, every
  strictly increasing whole-second time axis, every missing pattern.  Of `inDom`, `C10_roc` uses
  `0 ≤ thr` and `C10_speed` uses `hopsConsistent`; the `example`s headed "Why …" are the
  counterexamples outside the domain.
-/
import IoosQc.Lemmas.Ladder
import IoosQc.Lemmas.MinMax
import IoosQc.Lemmas.NormalForm

namespace IoosQc

theorem increasing_lt (ts : List Int) (h : increasing ts = true) (i : Nat) (hi : 0 < i)
    (hn : i < ts.length) : ts.getD (i - 1) 0 < ts.getD i 0 := by
  obtain ⟨k, rfl⟩ : ∃ k, i = k + 1 := ⟨i - 1, by omega⟩
  -- the `k`-th difference is positive
  have hk : k < (diffs ts).length := by simp [diffs]; omega
  have := List.all_eq_true.1 h _ (List.getElem_mem hk)
  simp only [diffs, List.getElem_zipWith, List.getElem_tail, decide_eq_true_eq] at this
  rw [List.getD_eq_getElem?_getD, List.getD_eq_getElem?_getD, List.getElem?_eq_getElem hn,
    List.getElem?_eq_getElem (by omega : k + 1 - 1 < ts.length)]
  simp only [Nat.add_sub_cancel, Option.getD_some]
  omega

theorem elapsed_pos (ts : List Int) (h : increasing ts = true) (i : Nat) (hi : 0 < i)
    (hn : i < ts.length) : 0 < elapsed ts i := by
  unfold elapsed
  have := increasing_lt ts h i hi hn
  rw [Rat.intCast_pos]; omega

theorem rocRate_step (xs : List V) (ts : List Int) (i : Nat) (a b : Rat) (hi : i ≠ 0)
    (hpos : 0 < elapsed ts i) (ha : getV xs (i - 1) = some a) (hb : getV xs i = some b) :
    rocRate xs ts i = some (rabs (b - a) / elapsed ts i) := by
  rw [rocRate, if_neg hi, ha, hb]
  exact congrArg some (rabs_div_pos _ _ hpos)

theorem rocAt_spec (thr : Rat) (xs : List V) (ts : List Int) (i : Nat)
    (hthr : i = 0 → 0 ≤ thr) (hpos : 0 < i → 0 < elapsed ts i) :
    rocAt thr xs ts i ∈ rocSpecAt thr xs ts i := by
  rw [rocAt_ladder]
  unfold rocSpecAt
  cases hb : getV xs i with
  | none => simp
  | some b =>
    by_cases hi : i = 0
    · simp [hi, rocRate, Rat.not_lt.2 (hthr hi)]
    · cases ha : getV xs (i - 1) with
      | none => simp [hi, rocRate, ha]
      | some a =>
        rw [rocRate_step xs ts i a b hi (hpos (by omega)) ha hb]
        simpa [hi] using ladder_mem false false false (decide (thr < rabs (b - a) / elapsed ts i))

/-- C10 for `rate_of_change_test`; `rocSpec` rejects mismatched lengths (the code's ValueError). -/
theorem C10_roc (inp : List V) (ts : List Int) (thr : Rat)
    (h : (TestCall.roc inp ts thr).inDom = true) :
    conforms (rocSpec inp ts thr) (rocTest inp ts thr).toObs = true := by
  simp only [TestCall.inDom, Bool.and_eq_true, Bool.or_eq_true, bne_iff_ne, decide_eq_true_eq] at h
  unfold rocSpec rocTest
  split
  · rfl
  · next hl =>
    have hinc : increasing ts = true := h.1.resolve_left (by simpa using hl)
    exact conforms_flags_range _ _ _ (fun i hi => rocAt_spec thr inp ts i (fun _ => h.2)
      (fun h0 => elapsed_pos ts hinc i h0 (by simp at hl; omega)))

/-- Without `0 ≤ thr` conformance still holds at every position but the first. -/
theorem C10_roc_pointwise (inp : List V) (ts : List Int) (thr : Rat)
    (hl : inp.length = ts.length) (hinc : increasing ts = true) (i : Nat) (hi : 0 < i)
    (hn : i < inp.length) :
    rocAt thr inp ts i ∈ rocSpecAt thr inp ts i :=
  rocAt_spec thr inp ts i (by omega) (fun h0 => elapsed_pos ts hinc i h0 (by omega))

/-- Why `0 ≤ thr` is part of the domain: the first point's rate is the constant 0, so under a
    negative threshold the code flags it SUSPECT where the property says GOOD. -/
example : (TestCall.roc [some 0] [0] (-1)).inDom = false ∧
    (rocTest [some 0] [0] (-1)).toObs = .flags [3] ∧
    conforms (rocSpec [some 0] [0] (-1)) (rocTest [some 0] [0] (-1)).toObs = false := by
  decide +kernel

theorem C10_roc_first_negative_thr (thr : Rat) (xs : List V) (ts : List Int) (b : Rat)
    (hb : getV xs 0 = some b) (hthr : thr < 0) : rocAt thr xs ts 0 = .suspect := by
  simp [rocAt_ladder, rocRate, hb, hthr]

theorem C10_roc_equality_good (thr : Rat) (xs : List V) (ts : List Int) (i : Nat) (a b : Rat)
    (hi : 0 < i) (hpos : 0 < elapsed ts i)
    (ha : getV xs (i - 1) = some a) (hb : getV xs i = some b)
    (heq : rabs (b - a) / elapsed ts i = thr) : rocAt thr xs ts i = .good := by
  rw [rocAt_ladder, rocRate_step xs ts i a b (by omega) hpos ha hb, heq, hb]
  simp [Rat.lt_irrefl]

theorem C10_roc_suspect_iff (thr : Rat) (xs : List V) (ts : List Int) (i : Nat) (a b : Rat)
    (hi : 0 < i) (hpos : 0 < elapsed ts i)
    (ha : getV xs (i - 1) = some a) (hb : getV xs i = some b) :
    rocAt thr xs ts i = .suspect ↔ thr * elapsed ts i < rabs (b - a) := by
  rw [rocAt_ladder, rocRate_step xs ts i a b (by omega) hpos ha hb, hb, ladder_eq_suspect]
  simp [Rat.lt_div_iff hpos]

theorem C10_roc_length_mismatch (inp : List V) (ts : List Int) (thr : Rat)
    (hl : inp.length ≠ ts.length) : rocTest inp ts thr = .error .value := by
  rw [rocTest, if_pos (by simpa using hl)]
  rfl

theorem C10_roc_first_good (thr : Rat) (xs : List V) (ts : List Int) (b : Rat)
    (hb : getV xs 0 = some b) (hthr : 0 ≤ thr) : rocAt thr xs ts 0 = .good := by
  simp [rocAt_ladder, rocRate, hb, Rat.not_lt.2 hthr]

theorem C10_roc_after_gap_good (thr : Rat) (xs : List V) (ts : List Int) (i : Nat) (b : Rat)
    (hi : 0 < i) (ha : getV xs (i - 1) = none) (hb : getV xs i = some b) :
    rocAt thr xs ts i = .good := by
  have hi' : i ≠ 0 := by omega
  simp [rocAt_ladder, rocRate, hi', ha, hb]

theorem C10_roc_missing (thr : Rat) (xs : List V) (ts : List Int) (i : Nat)
    (hb : getV xs i = none) : rocAt thr xs ts i = .missing := by
  simp [rocAt_ladder, hb]

theorem hop_nonneg (n : Nat) (hops : List V) (h : hopsOk n hops = true) (j : Nat) (d : Rat)
    (hd : getV hops j = some d) : 0 ≤ d := by
  unfold hopsOk at h
  simp only [Bool.and_eq_true, List.all_eq_true] at h
  simpa using h.2 _ (mem_of_getV_eq_some hd)

theorem speedV_step (ts : List Int) (hops : List V) (i : Nat) (d : Rat) (hi : i ≠ 0)
    (hd : getV hops (i - 1) = some d) (hd0 : 0 ≤ d) (hpos : 0 < elapsed ts i) :
    speedV ts hops i = some (d / elapsed ts i) := by
  simp [speedV, hopAt, hi, hd, rabs_div_pos _ _ hpos, rabs_of_nonneg _ hd0]

/-- `hmiss` is the hypothesis of `speedAt_ladder`. -/
theorem speedAt_spec (sus fail : Rat) (lon lat : List V) (ts : List Int) (hops : List V) (i : Nat)
    (hpos : 0 < i → 0 < elapsed ts i)
    (hnn : ∀ d, getV hops (i - 1) = some d → 0 ≤ d)
    (hmiss : ((getV lon i).isNone && (getV lat i).isNone) = true → i = 0 ∨ hopAt hops i = none) :
    speedAt sus fail lon lat ts hops i ∈ speedSpecAt sus fail lon lat ts hops i := by
  rw [speedAt_ladder _ _ _ _ _ _ _ hmiss]
  unfold speedSpecAt
  by_cases hi : i = 0
  · subst hi
    rw [if_pos rfl]
    split <;> simp [hopAt]
  · have hh : hopAt hops i = getV hops (i - 1) := if_neg hi
    rw [hh] at hmiss ⊢
    rw [if_neg hi]
    cases hd : getV hops (i - 1) with
    | none =>
      -- no hop distance: MISSING, which every branch of the property admits
      simp only [Option.isNone_none, ladder_missing]
      split
      · exact mem_anyFlag _
      · split
        · simp
        · exact mem_anyFlag _
    | some d =>
      rw [speedV_step ts hops i d hi hd (hnn d hd) (hpos (by omega))]
      by_cases hf : (fullPos lon lat i && fullPos lon lat (i - 1)) = true
      · rw [if_pos hf]
        simpa [hi] using ladder_mem false false (decide (fail < d / elapsed ts i)) (decide (sus < d / elapsed ts i))
      · rw [if_neg hf, if_neg fun h => by simp [(hmiss h).resolve_left hi] at hd]
        exact mem_anyFlag _

/-- C10 for `argo.speed_test`.  The model takes the hop distances as an input; as the real code
    computes them they are `hopsConsistent`. -/
theorem C10_speed (lon lat : List V) (ts : List Int) (sus fail : Rat) (hops : List V)
    (h : (TestCall.speed lon lat ts sus fail hops).inDom = true) :
    conforms (speedSpec lon lat ts sus fail hops) (speedTest lon lat ts sus fail hops).toObs = true := by
  have hmiss := hopAt_none_of_consistent (speed_inDom_hops h)
  -- any calendar will do (`TestCall.run_eq`)
  have hrun := TestCall.run_eq (fun _ t => t) (.speed lon lat ts sus fail hops)
  simp only [TestCall.run, TestCall.flagAt, TestCall.size] at hrun
  rw [hrun]
  unfold speedSpec
  by_cases hl : (lon.length != lat.length || lon.length != ts.length) = true
  · rw [if_pos hl, if_pos hl]
    rfl
  · rw [if_neg hl, if_neg hl]
    have hdom : increasing ts = true ∧ hopsOk lon.length hops = true := by
      simp only [TestCall.inDom, hl, Bool.false_or, Bool.and_eq_true] at h
      exact h.1
    simp only [Bool.or_eq_true, bne_iff_ne, ne_eq, not_or, Decidable.not_not] at hl
    refine conforms_flags_range _ _ _ fun i hi => ?_
    by_cases h2 : lon.length < 2
    · -- a one-point track: UNKNOWN, which the property admits at the first point
      obtain rfl : i = 0 := by omega
      rw [if_pos h2, speedSpecAt, if_pos rfl]
      split <;> simp
    · rw [if_neg h2]
      exact speedAt_spec _ _ _ _ _ _ i (fun h0 => elapsed_pos ts hdom.1 i h0 (by omega))
        (fun d hd => hop_nonneg _ _ hdom.2 _ d hd) (hmiss i)

/-- Why `hopsConsistent` is part of the domain: given a distance for a hop into a position without
    coordinates, the model (like the code, had it that distance) flags FAIL where the property
    allows MISSING / UNKNOWN only. -/
example : (TestCall.speed [some 0, none] [some 0, none] [0, 1] 1 2 [some 5]).inDom = false ∧
    (speedTest [some 0, none] [some 0, none] [0, 1] 1 2 [some 5]).toObs = .flags [2, 4] ∧
    conforms (speedSpec [some 0, none] [some 0, none] [0, 1] 1 2 [some 5])
      (speedTest [some 0, none] [some 0, none] [0, 1] 1 2 [some 5]).toObs = false := by
  decide +kernel

theorem C10_speed_length_mismatch (lon lat : List V) (ts : List Int) (sus fail : Rat) (hops : List V)
    (hl : lon.length ≠ lat.length ∨ lon.length ≠ ts.length) :
    speedTest lon lat ts sus fail hops = .error .value := by
  rw [speedTest, if_pos (by simpa using hl)]
  rfl

theorem C10_speed_first_unknown (sus fail : Rat) (lon lat : List V) (ts : List Int) (hops : List V) :
    speedAt sus fail lon lat ts hops 0 = .unknown := by
  simp [speedAt_ladder, hopAt]

theorem C10_speed_equality (sus fail : Rat) (lon lat : List V) (ts : List Int) (hops : List V)
    (i : Nat) (d : Rat) (hi : 0 < i) (hpos : 0 < elapsed ts i) (hd0 : 0 ≤ d)
    (hd : getV hops (i - 1) = some d)
    (hfull : fullPos lon lat i = true ∧ fullPos lon lat (i - 1) = true) :
    (d / elapsed ts i = fail → speedAt sus fail lon lat ts hops i ≠ .fail) ∧
    (d / elapsed ts i = sus → sus ≤ fail → speedAt sus fail lon lat ts hops i = .good) := by
  have hi' : i ≠ 0 := by omega
  have hx : (getV lon i).isSome = true := by simp [fullPos] at hfull; exact hfull.1.1
  rw [speedAt_ladder _ _ _ _ _ _ _ (fun h => by
      cases hlo : getV lon i <;> simp [hlo] at hx h), speedV_step ts hops i d hi' hd hd0 hpos]
  simp only [ne_eq, ladder_eq_fail, ladder_eq_good, vgt_some, hopAt, if_neg hi', hd]
  refine ⟨fun he => ?_, fun he hle => ?_⟩
  · simp [he, Rat.lt_irrefl]
  · simp [he, hi', Rat.lt_irrefl, Rat.not_lt.2 hle]

/-- The reference run of DESIGN.md App. A with a gap added: 8/64 equals the threshold, 9/64
    exceeds it. -/
example : (rocTest [some 0, some 8, some 17, none, some 0] [0, 64, 128, 192, 256] (1/8)).toObs
    = .flags [1, 1, 3, 9, 1] := by
  decide +kernel

example : (speedTest [some 0, some 1, none, some 3] [some 0, some 0, none, some 0]
    [0, 10, 30, 40] 5 20 [some 100, none, none]).toObs = .flags [2, 3, 9, 9] := by
  decide +kernel

end IoosQc
