/-
  C05 — every stream front end hands the tests exactly the rows of the time window `starting ≤ t < ending` (an absent
  bound is open): each front end's row mask is `specMask`, for every window and every time axis (unsorted, repeated
  stamps, NaT rows), and under that mask ANY column is cut down to `windowRows`.  `pandasMaskOld` models selection BY
  ROW LABEL (F-22): it is the window only for distinct labels (`C05_pandas_old_bad_witness`).
  `Call.run` hands the test function exactly the keywords of its signature (`C05_call_kwargs`); `C18_call_run` stands
  here, next to the model of `callKwargs`.
-/
import IoosQc.Model.Streams
import IoosQc.Model.CallRun

namespace IoosQc

theorem zipWith_map_and {α : Type} (f g : α → Bool) (ts : List α) :
    List.zipWith (fun m t => m && g t) (ts.map f) ts = ts.map fun t => f t && g t := by
  rw [List.zipWith_map_left, List.zipWith_self]

theorem C05_numpy_mask (w : Window) (ts : List Int) : numpyMask w ts = specMask w ts := by
  obtain ⟨s, e⟩ := w
  cases s <;> cases e <;> simp [numpyMask, specMask, inWindow, zipWith_map_and]

theorem C05_pandasMaskOld_eq (w : Window) (rows : List (Nat × Int)) :
    pandasMaskOld w rows =
      rows.map fun r => (rows.filter fun q => inWindow w q.2).any fun q => q.1 == r.1 := by
  obtain ⟨s, e⟩ := w
  cases s <;> cases e <;> simp [pandasMaskOld, inWindow, List.filter_filter, Bool.and_comm]

theorem C05_label_unique (rows : List (Nat × Int)) (hnd : (rows.map (·.1)).Nodup)
    (q r : Nat × Int) (hq : q ∈ rows) (hr : r ∈ rows) (h : q.1 = r.1) : q = r := by
  have hp : rows.Pairwise fun a b => a.1 ≠ b.1 := List.pairwise_map.1 hnd
  exact List.Pairwise.forall_of_forall_of_flip (R := fun a b => a.1 = b.1 → a = b) (fun _ _ _ => rfl)
    (hp.imp fun hne e => absurd e hne) (hp.imp fun hne e => absurd e.symm hne) hq hr h

theorem C05_pandas_mask (w : Window) (rows : List (Nat × Int)) :
    pandasMask w rows = specMask w (rows.map (·.2)) := by
  unfold pandasMask; exact C05_numpy_mask w _

theorem C05_pandas_mask_old (w : Window) (rows : List (Nat × Int)) (hnd : (rows.map (·.1)).Nodup) :
    pandasMaskOld w rows = specMask w (rows.map (·.2)) := by
  rw [C05_pandasMaskOld_eq, specMask, List.map_map]
  refine List.map_congr_left fun r hr => ?_
  -- a surviving row that carries the label of `r` is `r` itself
  rw [Function.comp, Bool.eq_iff_iff]
  simp only [List.any_eq_true, List.mem_filter, beq_iff_eq]
  exact ⟨fun ⟨q, ⟨hq, hw⟩, hl⟩ => C05_label_unique rows hnd q r hq hr hl ▸ hw, fun hw => ⟨r, ⟨hr, hw⟩, rfl⟩⟩

theorem C05_xarray_mask (w : Window) (ts : List Int) : xarrayMask w ts = specMask w ts := by
  unfold xarrayMask specMask
  apply List.ext_getElem
  · simp
  · intro i h1 h2
    have hi : i < ts.length := by simpa using h2
    simp only [List.getElem_map, List.getElem_range]
    rw [Bool.eq_iff_iff]
    simp [List.mem_filter, hi]

theorem C05_frontends_agree (w : Window) (ts : List Int) (labels : List Nat)
    (hl : labels.length = ts.length) :
    numpyMask w ts = pandasMask w (labels.zip ts) ∧ numpyMask w ts = xarrayMask w ts := by
  rw [C05_numpy_mask, C05_xarray_mask, C05_pandas_mask, List.map_snd_zip (by omega)]
  exact ⟨rfl, rfl⟩

/-! ### `arr[mask]` -/

@[simp] theorem selectRows_nil_left {α : Type} (xs : List α) : selectRows [] xs = [] := rfl
@[simp] theorem selectRows_nil_right {α : Type} (mask : List Bool) : selectRows mask ([] : List α) = [] := by
  simp [selectRows]
@[simp] theorem selectRows_cons {α : Type} (m : Bool) (ms : List Bool) (x : α) (xs : List α) :
    selectRows (m :: ms) (x :: xs) = if m then x :: selectRows ms xs else selectRows ms xs := by
  cases m <;> rfl

theorem C05_selectRows (w : Window) (ts : List Int) : selectRows (specMask w ts) ts = ts.filter (inWindow w) := by
  induction ts with
  | nil => rfl
  | cons t ts ih => simp only [specMask, List.map_cons, selectRows_cons, List.filter_cons] at ih ⊢; rw [ih]

theorem C05_selectRows_zip {α : Type} (mask : List Bool) (xs : List α) (ts : List Int) (h : xs.length = ts.length) :
    selectRows mask (xs.zip ts) = (selectRows mask xs).zip (selectRows mask ts) := by
  induction mask generalizing xs ts with
  | nil => rfl
  | cons m ms ih =>
    match xs, ts, h with
    | [], _, _ => simp
    | x :: xs, t :: ts, h => cases m <;> simp [ih xs ts (Nat.succ.inj h)]

theorem selectRows_length {α : Type} (mask : List Bool) (xs : List α) (h : xs.length = mask.length) :
    (selectRows mask xs).length = mask.count true := by
  induction mask generalizing xs with
  | nil => rfl
  | cons m ms ih =>
    match xs, h with
    | x :: xs, h => cases m <;> simp [ih xs (Nat.succ.inj h)]

theorem selectRows_set_outside {α : Type} (mask : List Bool) (xs : List α) (j : Nat) (v : α)
    (hj : mask.getD j false = false) : selectRows mask (xs.set j v) = selectRows mask xs := by
  induction mask generalizing xs j with
  | nil => rfl
  | cons m ms ih =>
    match xs, j with
    | [], _ => rfl
    | x :: xs, 0 =>
      have : m = false := by simpa using hj
      simp [this]
    | x :: xs, j + 1 => simp [ih xs j (by simpa using hj)]

/-- `C05_pandas_mask_old` needs distinct labels: `index.isin` also marks the out-of-window row that carries the label of
    an in-window one; the positional `pandasMask` does not. -/
example : pandasMaskOld ⟨none, some 15⟩ [(0, 10), (0, 20)] = [true, true] := by decide
theorem C05_pandas_old_bad_witness :
    pandasMaskOld ⟨none, some 15⟩ [(0, 10), (0, 20)]
      ≠ specMask ⟨none, some 15⟩ ([(0, 10), (0, 20)].map (·.2)) := by decide
example : pandasMask ⟨none, some 15⟩ [(0, 10), (0, 20)] = [true, false] := by decide

example : specMask ⟨some 10, some 20⟩ [9, 10, 15, 19, 20, 21] = [false, true, true, true, false, false] := by
  decide
example : numpyMask ⟨some 10, some 20⟩ [9, 10, 15, 19, 20, 21] = [false, true, true, true, false, false] := by
  decide
example : pandasMask ⟨some 10, some 20⟩ [(5, 9), (4, 10), (3, 15), (2, 19), (1, 20), (0, 21)]
    = [false, true, true, true, false, false] := by decide
example : xarrayMask ⟨some 10, some 20⟩ [9, 10, 15, 19, 20, 21] = [false, true, true, true, false, false] := by
  decide
example : inWindow ⟨some 10, some 20⟩ 20 = false ∧ inWindow ⟨some 10, some 20⟩ 10 = true := by decide
/-- absent bounds are open; an empty window selects nothing; unsorted time axes are fine -/
example : numpyMask ⟨none, some 20⟩ [25, -3, 20, 19] = [false, true, false, true] := by decide
example : xarrayMask ⟨some 20, none⟩ [25, -3, 20, 19] = [true, false, true, false] := by decide
example : pandasMask ⟨some 20, some 20⟩ [(0, 19), (1, 20), (2, 21)] = [false, false, false] := by decide
example : selectRows (specMask ⟨some 10, some 20⟩ [9, 10, 15, 20]) ["a", "b", "c", "d"] = ["b", "c"] := by
  decide

/-! ### rows whose time is NaT -/

/-- A NaT row fails every comparison: it is in no window that has a bound (not even only an `ending`), and in the
    window without bounds. -/
theorem C05_numpy_mask_nat (w : Window) (ts : List (Option Int)) : numpyMaskOpt w ts = specMaskOpt w ts := by
  obtain ⟨s, e⟩ := w
  have h : numpyMaskOpt ⟨s, e⟩ ts = ts.map fun t =>
      (match s with | some a => geOpt a t | none => true) && (match e with | some b => ltOpt b t | none => true) := by
    cases s <;> cases e <;> simp [numpyMaskOpt, zipWith_map_and]
  rw [h]
  exact List.map_congr_left fun t _ => by
    cases t <;> cases s <;> cases e <;> simp [inWindowOpt, inWindow, geOpt, ltOpt]

theorem C05_specMaskOpt_some (w : Window) (ts : List Int) : specMaskOpt w (ts.map some) = specMask w ts := by
  simp [specMaskOpt, specMask, inWindowOpt, Function.comp_def]

example : specMaskOpt ⟨none, some 20⟩ [some 5, none, some 25] = [true, false, false] := by decide
example : numpyMaskOpt ⟨none, some 20⟩ [some 5, none, some 25] = [true, false, false] := by decide
example : specMaskOpt ⟨none, none⟩ [some 5, none] = [true, true] := by decide

/-! ### front-end refinement (NetcdfStream and `QcConfig.run` go through NumpyStream, hence `numpyMask`) -/

/-- The rows of a column whose time is in the window. -/
def windowRows {α : Type} (w : Window) (xs : List α) (ts : List Int) : List α :=
  ((xs.zip ts).filter fun p => inWindow w p.2).map (·.1)

theorem selectRows_spec_eq_windowRows {α : Type} (w : Window) (xs : List α) (ts : List Int) :
    selectRows (specMask w ts) xs = windowRows w xs ts := by
  unfold specMask windowRows
  induction ts generalizing xs with
  | nil => cases xs <;> simp
  | cons t ts ih =>
    match xs with
    | [] => simp
    | x :: xs => cases hw : inWindow w t <;> simp [hw, ih xs]

theorem C05_refine_numpy {α : Type} (w : Window) (xs : List α) (ts : List Int) :
    selectRows (numpyMask w ts) xs = windowRows w xs ts := by
  rw [C05_numpy_mask]; exact selectRows_spec_eq_windowRows w xs ts

theorem C05_refine_xarray {α : Type} (w : Window) (xs : List α) (ts : List Int) :
    selectRows (xarrayMask w ts) xs = windowRows w xs ts := by
  rw [C05_xarray_mask]; exact selectRows_spec_eq_windowRows w xs ts

-- `h` is not used: the equation holds for a column of any length
set_option linter.unusedVariables false in
theorem C05_refine_pandas {α : Type} (w : Window) (xs : List α) (rows : List (Nat × Int))
    (h : xs.length = rows.length) :
    selectRows (pandasMask w rows) xs = windowRows w xs (rows.map (·.2)) := by
  rw [C05_pandas_mask w rows]
  exact selectRows_spec_eq_windowRows w xs _

-- `h` is not used: the masks agree, whatever the column
set_option linter.unusedVariables false in
theorem C05_refine_all {α : Type} (w : Window) (xs : List α) (ts : List Int) (labels : List Nat)
    (h : xs.length = ts.length) (hl : labels.length = ts.length) :
    selectRows (numpyMask w ts) xs = selectRows (xarrayMask w ts) xs ∧
    selectRows (numpyMask w ts) xs = selectRows (pandasMask w (labels.zip ts)) xs := by
  obtain ⟨hp, hx⟩ := C05_frontends_agree w ts labels hl
  rw [← hp, ← hx]
  exact ⟨rfl, rfl⟩

example : windowRows ⟨some 10, some 20⟩ ["a", "b", "c", "d", "e"] [9, 10, 15, 20, 21] = ["b", "c"] := by decide

/-! ### `Call.run` (C05 / C18) -/

private theorem lookup_map_merge (a b : KwArgs) (k : String) :
    (a.map (fun kv => (kv.1, (b.lookup kv.1).getD kv.2))).lookup k =
      (a.lookup k).map (fun v => (b.lookup k).getD v) := by
  induction a with
  | nil => simp
  | cons kv a ih =>
    obtain ⟨k', v'⟩ := kv
    by_cases h : k = k'
    · subst h; simp [List.lookup]
    · have h' : (k == k') = false := by simpa using h
      simp [List.lookup, h', ih]

private theorem lookup_filter_key (P : String → Bool) (l : KwArgs) (k : String) :
    (l.filter (fun kv => P kv.1)).lookup k = if P k then l.lookup k else none := by
  induction l with
  | nil => simp
  | cons kv l ih =>
    obtain ⟨k', v'⟩ := kv
    rw [List.filter_cons]
    by_cases h : k = k'
    · subst h
      cases hP : P k <;> simp [hP, ih]
    · have h' : (k == k') = false := by simpa using h
      cases hP : P k' <;> simp [List.lookup_cons, h', ih]

theorem C05_call_merge_lookup (a b : KwArgs) (k : String) :
    (dictMerge a b).lookup k = ((b.lookup k).orElse fun _ => a.lookup k) := by
  unfold dictMerge
  rw [List.lookup_append, lookup_map_merge, lookup_filter_key fun k => (a.lookup k).isNone]
  cases a.lookup k <;> cases b.lookup k <;> simp

/-- Nothing unless `k` is a parameter of the function; otherwise the stream's value if the stream passed one, else the
    configured one. -/
theorem C05_call_kwargs (configured passed : KwArgs) (sig : List String) (k : String) :
    (callKwargs configured passed sig).lookup k =
      if sig.contains k then ((passed.lookup k).orElse fun _ => configured.lookup k) else none := by
  unfold callKwargs
  rw [lookup_filter_key sig.contains, C05_call_merge_lookup]

theorem C05_call_only_signature (configured passed : KwArgs) (sig : List String) :
    ∀ kv ∈ callKwargs configured passed sig, kv.1 ∈ sig := by
  intro kv h
  unfold callKwargs at h
  have := (List.mem_filter.mp h).2
  simpa using this

/-- A call never raises and yields at most one result; it yields none exactly when the function raised. -/
theorem C18_call_run {β} (f : KwArgs → Except Err β) (configured passed : KwArgs) (sig : List String) :
    (callRun f configured passed sig).length ≤ 1 ∧
    ((callRun f configured passed sig) = [] ↔ ∃ e, f (callKwargs configured passed sig) = .error e) := by
  unfold callRun
  cases h : f (callKwargs configured passed sig) with
  | ok r => simp
  | error e => simp

example : callKwargs [("tolerance", 1), ("zinp", 2), ("bogus", 3)] [("inp", 10), ("zinp", 11), ("lat", 12)] ["inp", "zinp", "tolerance"]
    = [("tolerance", 1), ("zinp", 11), ("inp", 10)] := by decide

end IoosQc
