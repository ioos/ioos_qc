/- generated by harness/mk_audit.py: `#print axioms` for every property theorem; parsed by harness/engine.py -/
import IoosQc
open IoosQc IoosQc.Np IoosQc.NpSrc IoosQc.NpFx
#print axioms C01_length
#print axioms C01_alphabet
#print axioms C01_deterministic
#print axioms C01_run_ok
#print axioms C01_total
#print axioms C02_holdsFrom_range'
#print axioms C02_holds_range
#print axioms C02_main
#print axioms C02_main_of_exact
#print axioms C02_main_nonspeed
#print axioms C02_speed_counterexample
#print axioms C03_gross
#print axioms C03_valid
#print axioms C03_gross_endpoints_not_fail
#print axioms C03_gross_order
#print axioms C04_worst_ge
#print axioms C04_worst_mem
#print axioms C04_compareAt
#print axioms C04_main
#print axioms C04_set_ext
#print axioms C04_perm
#print axioms C04_dup
#print axioms C04_assoc
#print axioms C04_idem
#print axioms C05_numpy_mask
#print axioms C05_pandasMaskOld_eq
#print axioms C05_label_unique
#print axioms C05_pandas_mask
#print axioms C05_pandas_mask_old
#print axioms C05_xarray_mask
#print axioms C05_frontends_agree
#print axioms C05_selectRows
#print axioms C05_selectRows_zip
#print axioms C05_pandas_old_bad_witness
#print axioms C05_numpy_mask_nat
#print axioms C05_specMaskOpt_some
#print axioms C05_refine_numpy
#print axioms C05_refine_xarray
#print axioms C05_refine_pandas
#print axioms C05_refine_all
#print axioms C05_call_merge_lookup
#print axioms C05_call_kwargs
#print axioms C05_call_only_signature
#print axioms C18_call_run
#print axioms C06_collect_length
#print axioms C06_collect_spec
#print axioms C06_dict_length
#print axioms C06_dict_spec
#print axioms C06_order_independent
#print axioms C06_dict_order_independent
#print axioms C06_main
#print axioms C06_keys_nodup
#print axioms C06_keys_complete
#print axioms C06_keys_perm
#print axioms C07_depth_modules
#print axioms C07_depth_streams_le
#print axioms C07_depth_streams_iff
#print axioms C07_depth_streams
#print axioms C07_context
#print axioms C07_layout_contexts
#print axioms C07_layout_context
#print axioms C07_layout_streams
#print axioms C07_layout_modules'
#print axioms C07_layout_modules
#print axioms C07_unknown_skipped
#print axioms C07_unknown_skipped_calls
#print axioms C07_main_eq
#print axioms C07_main
#print axioms C07_main_real
#print axioms C07_F09_witness
#print axioms C07_F09_depth
#print axioms C08_depth_required
#print axioms C08_climatology
#print axioms C08_no_members
#print axioms C08_uncovered
#print axioms C08_bounds_inclusive
#print axioms C08_fail_bounds_inclusive
#print axioms C08_span_inclusive
#print axioms C08_append_noncovering
#print axioms C08_append_covering
#print axioms C08_cal_aux_yearStart_succ
#print axioms C08_cal_aux_yearStart_succ_values
#print axioms C08_cal_aux_yearStart_parts
#print axioms C08_cal_aux_isLeap_parts
#print axioms C08_cal_aux_yearStart_parts_succ
#print axioms C08_cal_aux_yoe_of_parts
#print axioms C08_cal_aux_year_parts
#print axioms C08_cal_aux_year_of_day
#print axioms C08_cal_aux_exists_year
#print axioms C08_cal_aux_civil_month
#print axioms C08_cal_aux_month_iff
#print axioms C08_cal_aux_civil_of_parts
#print axioms C08_cal_aux_parts
#print axioms C08_cal_aux_days_eq
#print axioms C08_cal_aux_days_of_parts
#print axioms C08_cal_roundtrip
#print axioms C08_cal_month_range
#print axioms C08_cal_day_range
#print axioms C08_cal_weekday_range
#print axioms C08_cal_weekday_step
#print axioms C08_cal_weekday_succ
#print axioms C08_cal_aux_period_year
#print axioms C08_cal_aux_period_month
#print axioms C08_cal_aux_period_day
#print axioms C08_cal_aux_period_hour
#print axioms C08_cal_aux_period_quarter
#print axioms C08_cal_aux_period_dayofyear
#print axioms C08_cal_aux_period_dayofweek
#print axioms C08_cal_aux_period_week
#print axioms C08_cal_quarter_range
#print axioms C08_cal_hour_range
#print axioms C08_cal_period_month_range
#print axioms C08_cal_period_day_range
#print axioms C08_cal_period_dayofweek_range
#print axioms C08_cal_aux_jan1
#print axioms C08_cal_year_length
#print axioms C08_cal_year_bracket
#print axioms C08_cal_aux_dayofyear_days
#print axioms C08_cal_dayofyear_range
#print axioms C08_cal_dayofyear_le_year_length
#print axioms C08_cal_aux_weeks_in_year
#print axioms C08_cal_aux_isoWeek_eq
#print axioms C08_cal_isoWeek_range
#print axioms C08_cal_week_range
#print axioms C08_cal_same_day
#print axioms C08_cal_same_day_hour
#print axioms C08_cal_aux_monthLength_table
#print axioms C08_cal_aux_monthLength_parts
#print axioms C08_cal_aux_next_month
#print axioms C08_cal_next_day
#print axioms C08_cal_day_le_month_length
#print axioms C08_cal_civil_injective
#print axioms C08_cal_roundtrip_civil
#print axioms C08_cal_epoch
#print axioms C08_cal_aux_isoWeekSpec_eq
#print axioms C08_cal_isoThursday_weekday
#print axioms C08_cal_isoThursday_near
#print axioms C08_cal_aux_jan1_mono
#print axioms C08_cal_year_of_bracket
#print axioms C08_cal_aux_year_len_values
#print axioms C08_cal_aux_thursdays
#print axioms C08_cal_aux_thursdays_in_year
#print axioms C08_cal_isoWeek_spec
#print axioms C08_cal_isoWeek_same_week
#print axioms C08_cal_isoWeek_thursday
#print axioms C08_cal_aux_isoThursday_step
#print axioms C08_cal_aux_year_next_week
#print axioms C08_cal_isoWeek_next_week
#print axioms C08_cal_isoWeek_next_week_year
#print axioms C08_cal_aux_jan_d
#print axioms C08_cal_week1_contains_jan4
#print axioms C08_cal_isoWeek_one_iff
#print axioms C09_spike
#print axioms C09_endpoints
#print axioms C09_missing
#print axioms C09_threshold_equality
#print axioms C09_threshold_equality_diff
#print axioms C09_fail_over_suspect
#print axioms C09_method
#print axioms C10_roc
#print axioms C10_roc_pointwise
#print axioms C10_roc_first_negative_thr
#print axioms C10_roc_equality_good
#print axioms C10_roc_suspect_iff
#print axioms C10_roc_length_mismatch
#print axioms C10_roc_first_good
#print axioms C10_roc_after_gap_good
#print axioms C10_roc_missing
#print axioms C10_speed
#print axioms C10_speed_length_mismatch
#print axioms C10_speed_first_unknown
#print axioms C10_speed_equality
#print axioms C11_counts
#print axioms C11_flat
#print axioms C11_short
#print axioms C11_fail_over_suspect
#print axioms C11_suspect_iff
#print axioms C11_missing
#print axioms C11_tolerance_equal_no_hit
#print axioms C11_all_missing_no_hit
#print axioms C11_early_no_hit
#print axioms C12_atten
#print axioms C12_min_obs
#print axioms C12_fail_wins
#print axioms C12_missing
#print axioms C12_good
#print axioms C12_suspect
#print axioms C12_check_type
#print axioms C13_density
#print axioms C13_pressure
#print axioms C13_reverse
#print axioms C13_density_single
#print axioms C13_density_length_mismatch
#print axioms C13_density_pair_fail
#print axioms C14_location
#print axioms C14_inside_not_fail
#print axioms C14_box_edges
#print axioms C14_corners_good
#print axioms C14_fail_overrides_suspect
#print axioms C14_fail_overrides_suspect'
#print axioms C14_hop_strict
#print axioms C14_missing_coords
#print axioms C14_needs_hcons
#print axioms C14_needs_range_nonneg
#print axioms C15_data
#print axioms C15_data_partial
#print axioms C15_data_bad_witness
#print axioms C15_time
#print axioms C15_factor
#print axioms C15_main
#print axioms C16_noBetter
#print axioms C16_main
#print axioms C16_gross_noBetter
#print axioms C16_gross
#print axioms C16_valid
#print axioms C16_location
#print axioms C16_climatology
#print axioms C16_spike
#print axioms C16_roc
#print axioms C16_speed
#print axioms C16_density
#print axioms C16_atten
#print axioms C16_flat
#print axioms C17_holds_of_eq
#print axioms C17_holds_of_reverse
#print axioms C17_run_eq
#print axioms C17_main
#print axioms C17_add_spike
#print axioms C17_neg_spike
#print axioms C17_add_roc
#print axioms C17_neg_roc
#print axioms C17_shift_roc
#print axioms C17_add_flat
#print axioms C17_neg_flat
#print axioms C17_shift_flat
#print axioms C17_add_atten
#print axioms C17_neg_atten
#print axioms C17_shift_atten
#print axioms C17_shift_atten_whole
#print axioms C17_add_density
#print axioms C17_shift_speed
#print axioms C17_shift_climatology
#print axioms C17_both_gross
#print axioms C17_both_valid
#print axioms C17_reverse_spike
#print axioms C17_localAt
#print axioms C17_locality
#print axioms C18_isolation
#print axioms C18_insert_fault
#print axioms C18_insert_faults
#print axioms C18_alone
#print axioms C18_fault_silent
#print axioms C18_main
#print axioms C19_cfSafe_charset
#print axioms C19_cfSafe_id
#print axioms C19_plain_name
#print axioms C19_kept_iff
#print axioms C19_save_nodup
#print axioms C19_save_axes
#print axioms C19_save_data
#print axioms C19_save_flagcols
#print axioms C19_main
#print axioms C20_eval_history
#print axioms C20_main
#print axioms C20_history_irrelevant
#print axioms C20_parse_full
#print axioms C20_parse_min
#print axioms C20_parse_eval
#print axioms C20_stats_perm
#print axioms C20_stats_replicate
#print axioms C20_bbox_inclusive
#print axioms C20_nan_dropped
#print axioms C20_outside_dropped
#print axioms C20_span_days_irrelevant
#print axioms C20_span_perm
#print axioms C09_np_spike
#print axioms C03_np_gross
#print axioms C10_np_roc
#print axioms C20_src_eval
#print axioms C20_src_evalFx
#print axioms C20_src_history
#print axioms C20_src_symbols
#print axioms C20_src_numeral
#print axioms C04_src_compare
#print axioms C19_src_save
#print axioms C06_src_dict
#print axioms C06_src_dict_collectDict
#print axioms C05_src_call
#print axioms C07_src_context
#print axioms C03_src_gross
#print axioms C10_src_roc
#print axioms C09_src_spike
#print axioms C14_src_location
#print axioms C13_src_density
#print axioms C03_src_valid
#print axioms C13_src_pressure
#print axioms C10_src_speed
#print axioms C11_src_flat
#print axioms C08_src_climatology
#print axioms C12_src_atten
#print axioms C01_pin_flagCodes
#print axioms C04_pin_flagCodes
#print axioms C04_pin_priorities
#print axioms C19_pin_cfSafe_classes
#print axioms C20_pin_fxOps
#print axioms C03_pin_defaults
#print axioms C09_pin_default_method
#print axioms C11_pin_default_tolerance
#print axioms C12_pin_default_check_type
#print axioms C14_pin_default_bbox
#print axioms C07_pin_layout
#print axioms C05_pin_window
#print axioms C03_prog_gross
#print axioms C03_prog_valid
#print axioms C04_prog_compare
#print axioms C08_prog_climatology
#print axioms C09_prog_spike
#print axioms C10_prog_roc
#print axioms C10_prog_speed
#print axioms C11_prog_flat
#print axioms C12_prog_atten
#print axioms C13_prog_density
#print axioms C13_prog_pressure
#print axioms C14_prog_location
#print axioms C19_prog_save
#print axioms C01_prog_run
#print axioms C01_prog_total
#print axioms C02_prog_main
#print axioms C16_prog_main
#print axioms C17_prog_main
#print axioms C07_sys_group_mem
#print axioms C05_sys_frontends_numpy
#print axioms C05_sys_frontends_xarray
#print axioms C05_sys_frontends_pandas
#print axioms C05_sys_yield_sound
#print axioms C05_sys_yield_complete
#print axioms C05_sys_rows_window
#print axioms C06_sys_pieces_wf
#print axioms C06_sys_collect
#print axioms C06_sys_dict
#print axioms C18_sys_isolation
#print axioms C18_sys_alone
#print axioms C18_sys_dead_entry
#print axioms C18_sys_drop_failing
#print axioms C05_sys_outside_row
