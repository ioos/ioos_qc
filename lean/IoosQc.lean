import IoosQc.Handlers
import IoosQc.Lemmas.Basic
import IoosQc.Lemmas.C11Helpers
import IoosQc.Lemmas.Ladder
import IoosQc.Lemmas.ListDrop
import IoosQc.Lemmas.MinMax
import IoosQc.Lemmas.Mono
import IoosQc.Lemmas.NormalForm
import IoosQc.Lemmas.NpAttr
import IoosQc.Lemmas.NpTab
import IoosQc.Lemmas.PushNew
import IoosQc.Model.Aggregate
import IoosQc.Model.Basic
import IoosQc.Model.Calendar
import IoosQc.Model.CallRun
import IoosQc.Model.Carrier
import IoosQc.Model.Config
import IoosQc.Model.Creator
import IoosQc.Model.Defaults
import IoosQc.Model.Fx
import IoosQc.Model.FxParse
import IoosQc.Model.Np
import IoosQc.Model.NpAgg
import IoosQc.Model.NpCall
import IoosQc.Model.NpCollect
import IoosQc.Model.NpConfig
import IoosQc.Model.NpFx
import IoosQc.Model.NpSrc
import IoosQc.Model.NpStore
import IoosQc.Model.Results
import IoosQc.Model.Store
import IoosQc.Model.Streams
import IoosQc.Model.System
import IoosQc.Model.Tests
import IoosQc.Props.C01C02
import IoosQc.Props.C04
import IoosQc.Props.C06
import IoosQc.Props.C07
import IoosQc.Props.C15
import IoosQc.Props.C16
import IoosQc.Props.C17
import IoosQc.Props.C18
import IoosQc.Props.C19
import IoosQc.Props.C20
import IoosQc.Props.Domain
import IoosQc.Props.Spec
import IoosQc.Theorems.C01
import IoosQc.Theorems.C02
import IoosQc.Theorems.C03
import IoosQc.Theorems.C04
import IoosQc.Theorems.C05
import IoosQc.Theorems.C06
import IoosQc.Theorems.C07
import IoosQc.Theorems.C08
import IoosQc.Theorems.C08Calendar
import IoosQc.Theorems.C08IsoWeek
import IoosQc.Theorems.C09
import IoosQc.Theorems.C10
import IoosQc.Theorems.C11
import IoosQc.Theorems.C12
import IoosQc.Theorems.C13
import IoosQc.Theorems.C14
import IoosQc.Theorems.C15
import IoosQc.Theorems.C16
import IoosQc.Theorems.C16a
import IoosQc.Theorems.C16b
import IoosQc.Theorems.C17
import IoosQc.Theorems.C17a
import IoosQc.Theorems.C17b
import IoosQc.Theorems.C18
import IoosQc.Theorems.C19
import IoosQc.Theorems.C20
import IoosQc.Theorems.C20Parse
import IoosQc.Theorems.C20Stats
import IoosQc.Theorems.NpRefine
import IoosQc.Theorems.NpSrcFx
import IoosQc.Theorems.NpSrcGlue
import IoosQc.Theorems.NpSrcTests
import IoosQc.Theorems.SourcePin
import IoosQc.Theorems.SrcProps
import IoosQc.Theorems.Sys
import IoosQc.Wire
